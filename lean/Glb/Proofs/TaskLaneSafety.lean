/-
  Safety invariants of the TaskLane model (`Glb.Model.TaskLane`) for `cfg L Q`, arbitrary `L`, `Q`.

  Each invariant is a predicate on the few components of the state it reads, with lemmas about
  variables for the ways those components change (a point update of one goroutine, a task appended
  to a history list).  Preservation is then read off the edges `XStep` of `cfg L Q`
  (`Glb.Proofs.TaskLaneSteps`): an edge that touches none of the components preserves the
  invariant by `exact h`, the others by one of the lemmas; for the producers the edges are first
  reduced to the five things a step can do to them (`PEff`), of which the last three are one call
  moving on while `accepted` and `results` change for its task only (`ProdInv.move`).  The panic bookkeeping needs no program
  and is proved for the generic `Step` of any configuration.
-/
import Glb.Proofs.TaskLaneSteps

namespace Glb.TaskLane

theorem upd_cases {α} (f : Nat → α) (i : Nat) (v : α) (j : Nat) :
    j = i ∧ upd f i v j = v ∨ j ≠ i ∧ upd f i v j = f j := by
  unfold upd
  split
  · exact .inl ⟨‹_›, rfl⟩
  · exact .inr ⟨‹_›, rfl⟩

theorem forall_upd {α} {P : α → Prop} {f : Nat → α} (h : ∀ j, P (f j)) (i : Nat) {v : α} (hv : P v)
    (j : Nat) : P (upd f i v j) := by
  unfold upd; split
  · exact hv
  · exact h j

/-- `F (f 0) + … + F (f (n-1))` -/
def sumG {α} (n : Nat) (F : α → Nat) (f : Nat → α) : Nat := sumTo n (fun j => F (f j))

theorem sumTo_congr (n : Nat) (f g : Nat → Nat) (h : ∀ i, i < n → f i = g i) :
    sumTo n f = sumTo n g := by
  induction n with
  | zero => rfl
  | succ n ih => simp only [sumTo]; rw [ih (fun i hi => h i (by omega)), h n (by omega)]

theorem sumG_upd {α} {n i : Nat} (F : α → Nat) (f : Nat → α) (x : α) (h : i < n) :
    sumG n F (upd f i x) + F (f i) = sumG n F f + F x := by
  induction n with
  | zero => omega
  | succ n ih =>
    simp only [sumG, sumTo] at ih ⊢
    by_cases hi : i = n
    · subst hi
      rw [upd_same, sumTo_congr i _ (fun j => F (f j)) fun j hj => by rw [upd_other _ _ _ _ (Nat.ne_of_lt hj)]]
      omega
    · have := ih (by omega)
      rw [upd_other _ _ _ _ (Ne.symm hi)]
      omega

theorem sumTo_le_mul (n : Nat) (f : Nat → Nat) (b : Nat) (h : ∀ i, i < n → f i ≤ b) :
    sumTo n f ≤ n * b := by
  induction n with
  | zero => simp [sumTo]
  | succ n ih =>
    have := ih (fun i hi => h i (by omega))
    have := h n (by omega)
    simp only [sumTo, Nat.succ_mul]; omega

theorem sumG_le {α} (n : Nat) (F : α → Nat) (f : Nat → α) (b : Nat) (h : ∀ x, F x ≤ b) :
    sumG n F f ≤ n * b := sumTo_le_mul _ _ _ (fun _ _ => h _)

theorem sumTo_le_sumTo (n : Nat) (f g : Nat → Nat) (h : ∀ i, i < n → f i ≤ g i) :
    sumTo n f ≤ sumTo n g := by
  induction n with
  | zero => simp [sumTo]
  | succ n ih =>
    have := ih (fun i hi => h i (by omega)); have := h n (by omega)
    simp only [sumTo]; omega

theorem sumG_init {α} (n : Nat) (F : α → Nat) (x : α) (h : F x = 0) : sumG n F (fun _ => x) = 0 := by
  induction n with
  | zero => rfl
  | succ n ih => simp only [sumG, sumTo] at *; omega

theorem sumTo_zero (n : Nat) : sumTo n (fun _ => 0) = 0 := sumG_init n id 0 rfl

theorem count_catTo (t : Tid) (n : Nat) (f : Nat → List Tid) :
    (catTo n f).count t = sumTo n (fun j => (f j).count t) := by
  induction n with
  | zero => rfl
  | succ n ih => simp only [catTo, sumTo, List.count_append, ih]

theorem length_catTo (n : Nat) (f : Nat → List Tid) :
    (catTo n f).length = sumTo n (fun j => (f j).length) := by
  induction n with
  | zero => rfl
  | succ n ih => simp only [catTo, sumTo, List.length_append, ih]



theorem le_sumG {α} {n i : Nat} (F : α → Nat) (f : Nat → α) (h : i < n) : F (f i) ≤ sumG n F f := by
  induction n with
  | zero => omega
  | succ n ih =>
    simp only [sumG, sumTo] at ih ⊢
    by_cases hi : i = n
    · subst hi; omega
    · have := ih (by omega); omega

/-- what `accepted` and `results` say about one `PushTask` call, by its pc -/
structure CallInv (acc : List Tid) (res : List (Tid × PushResult)) (x : G) : Prop where
  notAcc : x.pc ≤ 2 ∨ x.pc = 4 → x.held ∉ acc
  acc3 : x.pc = 3 → x.held ∈ acc
  noRes : x.pc ≠ 5 → ∀ r, (x.held, r) ∉ res

/-- Bookkeeping of the `PushTask` calls: call `k < np` is in local state `ps k` (`held` = its task)
    and pushes to lane `plane k`; `acc` are the tasks accepted, `res` the results returned so far. -/
structure ProdInv (L np : Nat) (ps : Nat → G) (plane : Nat → Nat) (acc : List Tid)
    (res : List (Tid × PushResult)) : Prop where
  plane : ∀ k, k < np → plane k < L
  fresh : ∀ k k', k < np → k' < np → (ps k).held = (ps k').held → k = k'
  call : ∀ k, k < np → CallInv acc res (ps k)
  accOwner : ∀ t, t ∈ acc → ∃ k, k < np ∧ (ps k).held = t
  res : ∀ t r, (t, r) ∈ res → ∃ k, k < np ∧ (ps k).held = t ∧ (ps k).pc = 5 ∧ (r = .nil ↔ t ∈ acc)
  accNodup : acc.Nodup

variable {L np : Nat} {ps : Nat → G} {plane : Nat → Nat} {acc : List Tid} {res : List (Tid × PushResult)}

theorem ProdInv.push (h : ProdInv L np ps plane acc res) {t lane : Nat} (hl : lane < L)
    (hf : ∀ k, k < np → (ps k).held ≠ t) :
    ProdInv L (np + 1) (upd ps np ⟨0, false, t⟩) (upd plane np lane) acc res := by
  have old : ∀ {k}, k < np + 1 → k ≠ np → k < np := fun h1 h2 => by omega
  have keep : ∀ {k}, k < np → upd ps np ⟨0, false, t⟩ k = ps k :=
    fun hk => upd_other ps np _ _ (Nat.ne_of_lt hk)
  refine ⟨fun k hk => ?_, fun k k' hk hk' e => ?_, fun k hk => ?_, fun u hu => ?_, fun u r hu => ?_,
    h.accNodup⟩
  · rcases upd_cases plane np lane k with ⟨-, e⟩ | ⟨ne, e⟩ <;> rw [e]
    · exact hl
    · exact h.plane k (old hk ne)
  · rcases upd_cases ps np ⟨0, false, t⟩ k with ⟨eq, a⟩ | ⟨ne, a⟩ <;>
      rcases upd_cases ps np ⟨0, false, t⟩ k' with ⟨eq', b⟩ | ⟨ne', b⟩ <;> rw [a, b] at e
    · exact eq.trans eq'.symm
    · exact absurd e.symm (hf k' (old hk' ne'))
    · exact absurd e (hf k (old hk ne))
    · exact h.fresh k k' (old hk ne) (old hk' ne') e
  · rcases upd_cases ps np ⟨0, false, t⟩ k with ⟨-, a⟩ | ⟨ne, a⟩ <;> rw [a]
    · exact ⟨fun _ ht => let ⟨k, hk, e⟩ := h.accOwner t ht; hf k hk e, nofun,
        fun _ r ht => let ⟨k, hk, e, _⟩ := h.res t r ht; hf k hk e⟩
    · exact h.call k (old hk ne)
  · obtain ⟨k, hk, e⟩ := h.accOwner u hu
    exact ⟨k, by omega, by rw [keep hk]; exact e⟩
  · obtain ⟨k, hk, e, h5, hi⟩ := h.res u r hu
    exact ⟨k, by omega, by rw [keep hk]; exact e, by rw [keep hk]; exact h5, hi⟩

/-- Call `k` moves to `y`, with the same task, while `acc` and `res` change for that task only:
    what they say about the other calls stays, since their tasks are different ones. -/
theorem ProdInv.move (h : ProdInv L np ps plane acc res) {k : Nat} (hk : k < np) {y : G}
    {acc' : List Tid} {res' : List (Tid × PushResult)} (hy : y.held = (ps k).held)
    (ha : ∀ t, t ≠ y.held → (t ∈ acc' ↔ t ∈ acc))
    (hr : ∀ t r, t ≠ y.held → ((t, r) ∈ res' ↔ (t, r) ∈ res))
    (hc : CallInv acc' res' y)
    (hres : ∀ r, (y.held, r) ∈ res' → y.pc = 5 ∧ (r = .nil ↔ y.held ∈ acc'))
    (hnd : acc'.Nodup) : ProdInv L np (upd ps k y) plane acc' res' := by
  have other : ∀ {j}, j < np → j ≠ k → (ps j).held ≠ y.held :=
    fun hj ne e => ne (h.fresh _ _ hj hk (e.trans hy))
  have held : ∀ j, (upd ps k y j).held = (ps j).held := fun j => by
    rcases upd_cases ps k y j with ⟨rfl, e⟩ | ⟨-, e⟩ <;> rw [e]
    exact hy
  refine ⟨h.plane, fun j j' hj hj' e => h.fresh j j' hj hj' (by rwa [held, held] at e), fun j hj => ?_,
    fun t ht => ?_, fun t r ht => ?_, hnd⟩
  · rcases upd_cases ps k y j with ⟨rfl, e⟩ | ⟨ne, e⟩ <;> rw [e]
    · exact hc
    · have c := h.call j hj
      have o := other hj ne
      exact ⟨fun hp hm => c.notAcc hp ((ha _ o).1 hm), fun hp => (ha _ o).2 (c.acc3 hp),
        fun hp r hm => c.noRes hp r ((hr _ r o).1 hm)⟩
  · by_cases e : t = y.held
    · exact ⟨k, hk, by rw [upd_same]; exact e.symm⟩
    · obtain ⟨j, hj, ej⟩ := h.accOwner t ((ha t e).1 ht)
      exact ⟨j, hj, (held j).trans ej⟩
  · by_cases e : t = y.held
    · subst e
      exact ⟨k, hk, by rw [upd_same], by rw [upd_same]; exact (hres r ht).1, (hres r ht).2⟩
    · obtain ⟨j, hj, ej, h5, hi⟩ := h.res t r ((hr t r e).1 ht)
      have ne : j ≠ k := fun e' => e (by subst e'; exact (hy.trans ej).symm)
      exact ⟨j, hj, (held j).trans ej, by rw [upd_other _ _ _ _ ne]; exact h5, hi.trans (ha t e).symm⟩

def InvProd (L : Nat) (s : St) : Prop := ProdInv L s.np s.ps s.plane s.accepted s.results

theorem invProd_init (L : Nat) : InvProd L init :=
  ⟨nofun, nofun, nofun, nofun, nofun, .nil⟩

/-- The moves of a producer that append nothing to `accepted` or `results`: from its first select
    to `return ctx.Err()`, or on to the second select while the context is live; at the second
    select parking, `Done()`, or the timeout (but see `PEff.accept`). -/
def pSilent (cancelled : Bool) (a b : Nat) : Prop :=
  a = 0 ∧ (b = 2 ∨ b = 1 ∧ cancelled = false) ∨ a = 1 ∧ (b = 1 ∨ b = 2 ∨ b = 4)

/-- A step as the producers see it: what it does to `np`, `ps`, `plane`, `accepted`, `results`
    (parameters: before, indices: after), in a context that is cancelled or not. -/
inductive PEff (c : Bool) (L np : Nat) (ps : Nat → G) (plane : Nat → Nat) (A : List Tid)
    (R : List (Tid × PushResult)) :
    Nat → (Nat → G) → (Nat → Nat) → List Tid → List (Tid × PushResult) → Prop where
  | same : PEff c L np ps plane A R np ps plane A R
  | push (t lane) : lane < L → (∀ k, k < np → (ps k).held ≠ t) →
      PEff c L np ps plane A R (np + 1) (upd ps np ⟨0, false, t⟩) (upd plane np lane) A R
  | silent (k y) : k < np → y.held = (ps k).held → pSilent c (ps k).pc y.pc →
      PEff c L np ps plane A R np (upd ps k y) plane A R
  | accept (k y) : k < np → y.held = (ps k).held → (ps k).pc = 1 → y.pc = 3 →
      PEff c L np ps plane A R np (upd ps k y) plane (A ++ [(ps k).held]) R
  | ret (k y r) : k < np → y.held = (ps k).held → y.pc = 5 →
      ((ps k).pc = 2 ∧ r = .ctxErr ∨ (ps k).pc = 3 ∧ r = .nil ∨ (ps k).pc = 4 ∧ r = .timeout) →
      PEff c L np ps plane A R np (upd ps k y) plane A (R ++ [((ps k).held, r)])

theorem XStep.peff {L Q : Nat} {s : St} {l : Label} {s' : St} (hx : XStep L Q s l s') :
    PEff s.cancelled L s.np s.ps s.plane s.accepted s.results s'.np s'.ps s'.plane s'.accepted s'.results := by
  cases hx with
  | push t lane hl hf => exact .push t lane hl hf
  | done g a b hl hc hpc he =>
    cases g with
    | p k =>
      exact .silent k _ hl rfl (he.1.imp (fun h => ⟨hpc.trans h, .inl he.2⟩) fun h => ⟨hpc.trans h, .inr (.inl he.2)⟩)
    | q i => exact .same
    | w i => exact .same
  | dfltDone g a b hl hu hc hpc he =>
    cases g with
    | p k => exact .silent k _ hl rfl (.inl ⟨hpc.trans he.1, .inr ⟨he.2, hc⟩⟩)
    | q i => exact .same
    | w i => exact .same
  | park g a hl hu hpc he =>
    cases g with
    | p k => exact .silent k _ hl rfl (.inr ⟨hpc.trans he, .inl (hpc.trans he)⟩)
    | q i => exact .same
    | w i => exact .same
  | pSend k hk hpc hb => exact .accept k _ hk rfl hpc rfl
  | pHand k i hk hi hQ hpc hqc => exact .accept k _ hk rfl hpc rfl
  | pTimeout k hk hpc => exact .silent k _ hk rfl (.inr ⟨hpc, .inr (.inr rfl)⟩)
  | pushRet k a r hk hpc hr => exact .ret k _ r hk rfl rfl (hpc ▸ hr)
  | _ => exact .same

theorem InvProd.step {L Q s l s'} (h : InvProd L s) (hs : XStep L Q s l s') : InvProd L s' := by
  suffices ∀ {c np ps plane A R np' ps' plane' A' R'}, ProdInv L np ps plane A R →
      PEff c L np ps plane A R np' ps' plane' A' R' → ProdInv L np' ps' plane' A' R' from this h hs.peff
  intro c np ps plane A R np' ps' plane' A' R' h he
  cases he with
  | same => exact h
  | push t lane hl hf => exact h.push hl hf
  | silent k y hk hy hs =>
    have hs : (ps k).pc ≤ 1 ∧ (y.pc = 1 ∨ y.pc = 2 ∨ y.pc = 4) := by unfold pSilent at hs; omega
    have hna := (h.call k hk).notAcc (by omega)
    have hn := (h.call k hk).noRes (by omega)
    rw [← hy] at hna hn
    exact h.move hk hy (fun _ _ => .rfl) (fun _ _ _ => .rfl)
      ⟨fun _ => hna, fun h3 => by omega, fun _ => hn⟩ (fun r hm => absurd hm (hn r)) h.accNodup
  | accept k y hk hy h1 h3 =>
    have hna := (h.call k hk).notAcc (by omega)
    have hn := (h.call k hk).noRes (by omega)
    rw [← hy] at hna hn ⊢
    refine h.move hk hy (fun t ne => ?_) (fun _ _ _ => .rfl)
      ⟨fun hp => by omega, fun _ => List.mem_append_right _ (List.mem_singleton_self _), fun _ => hn⟩
      (fun r hm => absurd hm (hn r)) ?_
    · rw [List.mem_append, List.mem_singleton]
      exact or_iff_left ne
    · rw [List.nodup_append]
      exact ⟨h.accNodup, List.nodup_cons.2 ⟨List.not_mem_nil, .nil⟩, fun a ha b hb e =>
        hna (by rw [List.mem_singleton.1 hb] at e; exact e ▸ ha)⟩
  | ret k y r hk hy h5 hr =>
    have c := h.call k hk
    have hn := c.noRes (by omega)
    rw [← hy] at hn ⊢
    refine h.move hk hy (fun _ _ => .rfl) (fun t r' ne => ?_)
      ⟨fun hp => by omega, fun hp => by omega, fun hp => absurd h5 hp⟩ (fun r' hm => ⟨h5, ?_⟩) h.accNodup
    · rw [List.mem_append, List.mem_singleton, Prod.mk.injEq]
      exact or_iff_left fun e => ne e.1
    · obtain rfl : r' = r := (List.mem_append.1 hm).elim (fun hm => absurd hm (hn r')) fun hm =>
        (Prod.mk.inj (List.mem_singleton.1 hm)).2
      rw [hy]
      rcases hr with ⟨e, rfl⟩ | ⟨e, rfl⟩ | ⟨e, rfl⟩
      · exact ⟨nofun, fun hm => absurd hm (c.notAcc (by omega))⟩
      · exact ⟨fun _ => c.acc3 e, fun _ => rfl⟩
      · exact ⟨nofun, fun hm => absurd hm (c.notAcc (by omega))⟩

/-- queue goroutine between `cnt++` and `cnt--` -/
def inFl (x : G) : Nat := if 2 ≤ x.pc ∧ x.pc ≤ 5 then 1 else 0
/-- queue goroutine between `cnt++` and `cnt--`, or exited (possibly without decrementing) -/
def inFl' (x : G) : Nat := if 2 ≤ x.pc ∧ x.pc ≤ 6 then 1 else 0
/-- worker inside `Start()` -/
def runB (x : G) : Nat := if x.pc = 3 ∧ x.parked = true then 1 else 0

theorem fl_low {x : G} (h : x.pc ≤ 1) : inFl x = 0 ∧ inFl' x = 0 :=
  ⟨if_neg fun c => by omega, if_neg fun c => by omega⟩
theorem fl_mid {x : G} (h : 2 ≤ x.pc ∧ x.pc ≤ 5) : inFl x = 1 ∧ inFl' x = 1 :=
  ⟨if_pos h, if_pos ⟨h.1, by omega⟩⟩
theorem fl_exit {x : G} (h : x.pc = 6) : inFl x = 0 ∧ inFl' x = 1 :=
  ⟨if_neg fun c => by omega, if_pos (by omega)⟩

theorem runB_of_pc {x : G} (h : x.pc ≠ 3) : runB x = 0 := if_neg fun c => h c.1
theorem runB_of_unparked {x : G} (h : x.parked = false) : runB x = 0 := if_neg fun c => by simp [h] at c
theorem runB_of_running {x : G} (h : x.pc = 3) (hp : x.parked = true) : runB x = 1 := if_pos ⟨h, hp⟩

/-- the counter against the queue goroutines: exact while the context is live; afterwards a queue
    goroutine may exit on `Done()` without decrementing -/
structure CntInv (L : Nat) (cancelled : Bool) (cnt : Nat) (qs : Nat → G) : Prop where
  lo : sumG L inFl qs ≤ cnt
  hi : cnt ≤ sumG L inFl' qs
  eq : cancelled = false → cnt = sumG L inFl qs

/-- queue goroutine `i` is replaced by `x` and the counter becomes `cnt'` -/
theorem CntInv.move {L i cnt : Nat} {c : Bool} {qs : Nat → G} (h : CntInv L c cnt qs) (hi : i < L) (x : G)
    (cnt' : Nat)
    (H : inFl (qs i) ≤ cnt → cnt + inFl x ≤ cnt' + inFl (qs i) ∧ cnt' + inFl' (qs i) ≤ cnt + inFl' x ∧
      (c = false → cnt' + inFl (qs i) = cnt + inFl x)) : CntInv L c cnt' (upd qs i x) := by
  have e1 := sumG_upd inFl qs x hi
  have e2 := sumG_upd inFl' qs x hi
  obtain ⟨h1, h2, h3⟩ := H (Nat.le_trans (le_sumG inFl qs hi) h.lo)
  exact ⟨by have := h.lo; omega, by have := h.hi; omega, fun hc => by have := h.eq hc; have := h3 hc; omega⟩

variable {L i cnt : Nat} {c : Bool} {qs : Nat → G}

/-- queue goroutine `i` stays before the increment or after the decrement -/
theorem CntInv.low (h : CntInv L c cnt qs) (hi : i < L) {x : G} (h0 : (qs i).pc ≤ 1) (h1 : x.pc ≤ 1) :
    CntInv L c cnt (upd qs i x) :=
  h.move hi x cnt fun _ => by rw [(fl_low h0).1, (fl_low h0).2, (fl_low h1).1, (fl_low h1).2]; exact ⟨.refl, .refl, fun _ => rfl⟩

/-- queue goroutine `i` stays between the increment and the decrement -/
theorem CntInv.mid (h : CntInv L c cnt qs) (hi : i < L) {x : G} (h0 : 2 ≤ (qs i).pc ∧ (qs i).pc ≤ 5)
    (h1 : 2 ≤ x.pc ∧ x.pc ≤ 5) : CntInv L c cnt (upd qs i x) :=
  h.move hi x cnt fun _ => by rw [(fl_mid h0).1, (fl_mid h0).2, (fl_mid h1).1, (fl_mid h1).2]; exact ⟨.refl, .refl, fun _ => rfl⟩

/-- queue goroutine `i` exits on `Done()`: from between increment and decrement the decrement is skipped -/
theorem CntInv.exit (h : CntInv L c cnt qs) (hi : i < L) {x : G} (hc : c = true) (h0 : (qs i).pc ≤ 5)
    (h1 : x.pc = 6) : CntInv L c cnt (upd qs i x) :=
  h.move hi x cnt fun _ => by
    rw [(fl_exit h1).1, (fl_exit h1).2]
    refine ⟨Nat.le_add_right .., ?_, fun c' => by rw [hc] at c'; cases c'⟩
    by_cases h2 : (qs i).pc ≤ 1
    · rw [(fl_low h2).2]; omega
    · rw [(fl_mid ⟨by omega, h0⟩).2]; omega

theorem CntInv.inc (h : CntInv L c cnt qs) (hi : i < L) {x : G} (h0 : (qs i).pc ≤ 1)
    (h1 : 2 ≤ x.pc ∧ x.pc ≤ 5) : CntInv L c (cnt + 1) (upd qs i x) :=
  h.move hi x _ fun _ => by rw [(fl_low h0).1, (fl_low h0).2, (fl_mid h1).1, (fl_mid h1).2]; exact ⟨.refl, .refl, fun _ => rfl⟩

theorem CntInv.dec (h : CntInv L c cnt qs) (hi : i < L) {x : G} (h0 : 2 ≤ (qs i).pc ∧ (qs i).pc ≤ 5)
    (h1 : x.pc ≤ 1) : CntInv L c (cnt - 1) (upd qs i x) :=
  h.move hi x _ fun hle => by
    rw [(fl_mid h0).1, (fl_mid h0).2, (fl_low h1).1, (fl_low h1).2]
    rw [(fl_mid h0).1] at hle
    exact ⟨by omega, by omega, fun _ => by omega⟩

structure InvBasic (L Q : Nat) (s : St) : Prop where
  panic : s.lastPanic = s.panics.getLast?
  buf : ∀ i, (s.buf i).length ≤ Q
  cnt : CntInv L s.cancelled s.cnt s.qs
  run : s.started.length = s.finished.length + sumG L runB s.ws

theorem invBasic_init (L Q : Nat) : InvBasic L Q init := by
  refine ⟨rfl, ?_, ⟨?_, ?_, ?_⟩, ?_⟩ <;> simp [init, sumG_init, inFl, inFl', runB]

/- occurrences of task `t` in the hand of a queue goroutine / of a worker about to call `Start()` -/
def cQ (t : Tid) (x : G) : Nat := (qHolding x).count t
def cW (t : Tid) (x : G) : Nat := (wHolding x).count t

theorem cQ_in {t : Tid} {x : G} {a : Tid} (hh : x.held = a) (h : 1 ≤ x.pc ∧ x.pc ≤ 4) : cQ t x = [a].count t := by
  unfold cQ qHolding; rw [if_pos h, hh]
theorem cQ_out {t : Tid} {x : G} (h : x.pc = 0 ∨ 5 ≤ x.pc) : cQ t x = 0 := by
  unfold cQ qHolding; rw [if_neg (by omega)]; rfl
theorem cW_in {t : Tid} {x : G} {a : Tid} (hh : x.held = a) (h : x.pc = 3) (hp : x.parked = false) :
    cW t x = [a].count t := by
  unfold cW wHolding; rw [if_pos ⟨h, hp⟩, hh]
theorem cW_out {t : Tid} {x : G} (h : x.pc ≠ 3 ∨ x.parked = true) : cW t x = 0 := by
  unfold cW wHolding; rw [if_neg fun c => h.elim (· c.1) (by simp [c.2])]; rfl

/-- occurrences of task `t` among the pending tasks -/
def pcountOf (L : Nat) (t : Tid) (buf : Nat → List Tid) (qs ws : Nat → G) : Nat :=
  sumG L (List.count t) buf + sumG L (cQ t) qs + sumG L (cW t) ws

theorem count_pending (L Q : Nat) (s : St) (t : Tid) :
    (s.pending (cfg L Q)).count t = pcountOf L t s.buf s.qs s.ws := by
  simp only [St.pending, pendingOf, List.count_append, count_catTo, pcountOf, sumG, cQ, cW, cfg]

section
variable {L i : Nat} {t : Tid} {buf : Nat → List Tid} {qs ws : Nat → G}

theorem pcountOf_buf (hi : i < L) (b : List Tid) :
    pcountOf L t (upd buf i b) qs ws + (buf i).count t = pcountOf L t buf qs ws + b.count t := by
  have := sumG_upd (List.count t) buf b hi; unfold pcountOf; omega

theorem pcountOf_q (hi : i < L) (x : G) :
    pcountOf L t buf (upd qs i x) ws + cQ t (qs i) = pcountOf L t buf qs ws + cQ t x := by
  have := sumG_upd (cQ t) qs x hi; unfold pcountOf; omega

theorem pcountOf_w (hi : i < L) (x : G) :
    pcountOf L t buf qs (upd ws i x) + cW t (ws i) = pcountOf L t buf qs ws + cW t x := by
  have := sumG_upd (cW t) ws x hi; unfold pcountOf; omega
end

/-- Conservation of tasks: every pending or started task is accounted for in the accepted ones, and
    while the context is live (`c = false`) the accounting is exact. -/
def CountInv (L : Nat) (c : Bool) (buf : Nat → List Tid) (qs ws : Nat → G) (st ac : List Tid) : Prop :=
  ∀ t, pcountOf L t buf qs ws + st.count t ≤ ac.count t ∧
    (c = false → pcountOf L t buf qs ws + st.count t = ac.count t)

section
variable {L i j : Nat} {c : Bool} {buf : Nat → List Tid} {qs ws : Nat → G} {st ac : List Tid}

/-- a queue goroutine moves from pc `p` to `x` at pc `p'` with the same task in its hand (or none) -/
theorem CountInv.q_same (h : CountInv L c buf qs ws st ac) (hi : i < L) {x : G} {p p' : Nat}
    (h0 : (qs i).pc = p) (hx : x.pc = p') (hh : x.held = (qs i).held)
    (hp : 1 ≤ p ∧ p ≤ 4 ↔ 1 ≤ p' ∧ p' ≤ 4) : CountInv L c buf (upd qs i x) ws st ac := fun t => by
  have := pcountOf_q (t := t) (buf := buf) (ws := ws) (qs := qs) hi x
  have e : cQ t x = cQ t (qs i) := by unfold cQ qHolding; simp only [h0, hx, hh, hp]
  rw [e] at this
  rw [Nat.add_right_cancel this]; exact h t

/-- a queue goroutine exits on `Done()`: the task in its hand, if any, is dropped -/
theorem CountInv.q_exit (h : CountInv L c buf qs ws st ac) (hi : i < L) (hc : c = true) {x : G}
    (e : 5 ≤ x.pc) : CountInv L c buf (upd qs i x) ws st ac := fun t => by
  have := pcountOf_q (t := t) (buf := buf) (ws := ws) (qs := qs) hi x
  rw [cQ_out (.inr e)] at this
  exact ⟨by have := (h t).1; omega, fun c' => by rw [hc] at c'; cases c'⟩

/-- a worker moves between states in which it holds no task that has yet to start -/
theorem CountInv.w_idle (h : CountInv L c buf qs ws st ac) (hj : j < L) {x : G}
    (e0 : (ws j).pc ≠ 3 ∨ (ws j).parked = true) (e1 : x.pc ≠ 3 ∨ x.parked = true) :
    CountInv L c buf qs (upd ws j x) st ac := fun t => by
  have := pcountOf_w (t := t) (buf := buf) (ws := ws) (qs := qs) hj x
  rw [cW_out e0, cW_out e1] at this
  rw [Nat.add_right_cancel this]; exact h t

/-- the queue goroutine of lane `i` takes the head of its buffer -/
theorem CountInv.take (h : CountInv L c buf qs ws st ac) (hi : i < L) (h0 : (qs i).pc = 0) {x : G}
    (hx : 1 ≤ x.pc ∧ x.pc ≤ 4) (hh : x.held = (buf i).headD 0) (hne : buf i ≠ []) :
    CountInv L c (upd buf i (buf i).tail) (upd qs i x) ws st ac := fun t => by
  have e1 := pcountOf_buf (t := t) (buf := buf) (ws := ws) (qs := upd qs i x) hi (buf i).tail
  have e2 := pcountOf_q (t := t) (buf := buf) (ws := ws) (qs := qs) hi x
  rw [cQ_out (.inl h0), cQ_in hh hx] at e2
  have e3 : (buf i).count t = (buf i).tail.count t + [(buf i).headD 0].count t := by
    cases hb : buf i with
    | nil => exact absurd hb hne
    | cons a l => rw [← List.singleton_append, List.count_append, Nat.add_comm]; rfl
  have := h t
  exact ⟨by omega, fun c' => by have := this.2 c'; omega⟩

/-- task `a` is put into the buffer of lane `i` and thereby accepted -/
theorem CountInv.send (h : CountInv L c buf qs ws st ac) (hi : i < L) (a : Tid) :
    CountInv L c (upd buf i (buf i ++ [a])) qs ws st (ac ++ [a]) := fun t => by
  have e1 := pcountOf_buf (t := t) (buf := buf) (ws := ws) (qs := qs) hi (buf i ++ [a])
  rw [List.count_append] at e1 ⊢
  have := h t
  exact ⟨by omega, fun c' => by have := this.2 c'; omega⟩

/-- task `a` is handed directly to the queue goroutine of lane `i` and thereby accepted -/
theorem CountInv.send_q (h : CountInv L c buf qs ws st ac) (hi : i < L) (h0 : (qs i).pc = 0) {x : G}
    (hx : 1 ≤ x.pc ∧ x.pc ≤ 4) : CountInv L c buf (upd qs i x) ws st (ac ++ [x.held]) := fun t => by
  have e2 := pcountOf_q (t := t) (buf := buf) (ws := ws) (qs := qs) hi x
  rw [cQ_out (.inl h0), cQ_in rfl hx] at e2
  rw [List.count_append]
  have := h t
  exact ⟨by omega, fun c' => by have := this.2 c'; omega⟩

/-- queue goroutine `i` hands its task to worker `j` -/
theorem CountInv.hand (h : CountInv L c buf qs ws st ac) (hi : i < L) (hj : j < L)
    (h0 : 1 ≤ (qs i).pc ∧ (qs i).pc ≤ 4) (h0' : (ws j).pc ≠ 3) {x y : G} (hx : 5 ≤ x.pc)
    (hy : y.pc = 3) (hy' : y.parked = false) (hh : y.held = (qs i).held) :
    CountInv L c buf (upd qs i x) (upd ws j y) st ac := fun t => by
  have e1 := pcountOf_w (t := t) (buf := buf) (ws := ws) (qs := upd qs i x) hj y
  have e2 := pcountOf_q (t := t) (buf := buf) (ws := ws) (qs := qs) hi x
  rw [cW_out (.inl h0'), cW_in hh hy hy'] at e1
  rw [cQ_in rfl h0, cQ_out (.inr hx)] at e2
  have := h t
  exact ⟨by omega, fun c' => by have := this.2 c'; omega⟩

/-- worker `j` calls `Start()` on the task it holds -/
theorem CountInv.start (h : CountInv L c buf qs ws st ac) (hj : j < L) (h0 : (ws j).pc = 3)
    (h0' : (ws j).parked = false) {x : G} (hx : x.parked = true) :
    CountInv L c buf qs (upd ws j x) (st ++ [(ws j).held]) ac := fun t => by
  have e1 := pcountOf_w (t := t) (buf := buf) (ws := ws) (qs := qs) hj x
  rw [cW_in rfl h0 h0', cW_out (.inr hx)] at e1
  rw [List.count_append]
  have := h t
  exact ⟨by omega, fun c' => by have := this.2 c'; omega⟩
end

def InvCount (L : Nat) (s : St) : Prop := CountInv L s.cancelled s.buf s.qs s.ws s.started s.accepted

theorem invCount_init (L : Nat) : InvCount L init := by
  intro t
  have h1 : sumG L (List.count t) (fun _ => ([] : List Tid)) = 0 := sumG_init _ _ _ rfl
  have h2 : sumG L (cQ t) (fun _ => ({} : G)) = 0 := sumG_init _ _ _ (cQ_out (.inl rfl))
  have h3 : sumG L (cW t) (fun _ => ({} : G)) = 0 := sumG_init _ _ _ (cW_out (.inl (by decide)))
  simp [init, pcountOf, h1, h2, h3]

structure WFS (L Q : Nat) (s : St) : Prop where
  basic : InvBasic L Q s
  prod : InvProd L s
  count : InvCount L s

theorem WFS.step {L Q s l s'} (w : WFS L Q s) (hs : XStep L Q s l s') : WFS L Q s' := by
  obtain ⟨⟨hp, hb, hc, hr⟩, hP, h⟩ := w
  have hP' := hP.step hs
  -- worker `j` moves to `x`, with `st'` tasks started and `fi'` finished
  have w' : ∀ {j} (x : G) (st' fi' : Nat), j < L →
      st' + s.finished.length + runB (s.ws j) = s.started.length + fi' + runB x →
      st' = fi' + sumG L runB (upd s.ws j x) := fun x st' fi' hj H => by
    have := sumG_upd runB s.ws x hj; omega
  have w : ∀ {j} (x : G), j < L → runB (s.ws j) = 0 → runB x = 0 →
      s.started.length = s.finished.length + sumG L runB (upd s.ws j x) := fun x hj h0 h1 =>
    w' x _ _ hj (by rw [h0, h1])
  cases hs with
  | cancel _ => exact ⟨⟨hp, hb, ⟨hc.lo, hc.hi, nofun⟩, hr⟩, hP', fun t => ⟨(h t).1, nofun⟩⟩
  | done g a b hl hcan ha he =>
    cases g with
    | q i =>
      exact ⟨⟨hp, hb, hc.exit hl hcan (ha ▸ by have := he.1; omega) he.2, hr⟩, hP',
        h.q_exit hl hcan (show 5 ≤ b by have := he.2; omega)⟩
    | w i =>
      exact ⟨⟨hp, hb, hc, w _ hl (runB_of_pc (ha ▸ by have := he.1; omega)) (runB_of_unparked rfl)⟩, hP',
        h.w_idle hl (.inl (ha ▸ by have := he.1; omega)) (.inl (show b ≠ 3 by have := he.2; omega))⟩
    | p k => exact ⟨⟨hp, hb, hc, hr⟩, hP', h⟩
  | qTake i hi hpc hne =>
    refine ⟨⟨hp, forall_upd (P := fun b : List Tid => b.length ≤ Q) hb i ?_, hc.low hi (by omega) (Nat.le_refl 1), hr⟩,
      hP', h.take hi hpc (x := ⟨1, false, _⟩) (show 1 ≤ 1 ∧ 1 ≤ 4 by decide) rfl hne⟩
    rw [List.length_tail]; exact Nat.le_trans (Nat.sub_le ..) (hb i)
  | pSend k hk hpc hlen =>
    refine ⟨⟨hp, forall_upd (P := fun b : List Tid => b.length ≤ Q) hb _ ?_, hc, hr⟩, hP', h.send (hP.plane k hk) _⟩
    rw [List.length_append, List.length_singleton]; exact hlen
  | hand i j a b hi hj ha ha' hb' hb'' =>
    exact ⟨⟨hp, hb, hc.mid hi (ha ▸ by omega) (show 2 ≤ 5 ∧ 5 ≤ 5 by decide),
        w _ hj (runB_of_pc (hb' ▸ by omega)) (runB_of_unparked rfl)⟩, hP',
      h.hand hi hj (ha ▸ by omega) (hb' ▸ by omega) (x := goto _ 5) (Nat.le_refl 5) rfl rfl rfl⟩
  | pHand k i hk hi hq hpc hpc' =>
    exact ⟨⟨hp, hb, hc.low hi (by omega) (Nat.le_refl 1), hr⟩, hP',
      h.send_q hi hpc' (x := ⟨1, false, _⟩) (show 1 ≤ 1 ∧ 1 ≤ 4 by decide)⟩
  | dfltDone g a b hl hu hcan ha he =>
    cases g with
    | q i =>
      exact ⟨⟨hp, hb, hc.mid hl (ha ▸ by have := he.1; omega) (show 2 ≤ b ∧ b ≤ 5 by have := he.2; omega), hr⟩, hP',
        h.q_same hl ha (p' := b) rfl rfl (by have := he.1; have := he.2; omega)⟩
    | w i =>
      exact ⟨⟨hp, hb, hc, w _ hl (runB_of_pc (ha ▸ by obtain ⟨rfl, -⟩ := he; omega)) (runB_of_unparked rfl)⟩, hP',
        h.w_idle hl (.inl (ha ▸ by have := he.1; omega)) (.inl (show b ≠ 3 by have := he.2; omega))⟩
    | p k => exact ⟨⟨hp, hb, hc, hr⟩, hP', h⟩
  | dfltQ i hi hu hpc =>
    exact ⟨⟨hp, hb, hc.mid hi (by omega) (show 2 ≤ 4 ∧ 4 ≤ 5 by decide), hr⟩, hP',
      h.q_same hi hpc (p' := 4) rfl rfl (by omega)⟩
  | dfltW i hi hu hpc =>
    exact ⟨⟨hp, hb, hc, w _ hi (runB_of_pc (by omega)) (runB_of_unparked rfl)⟩, hP',
      h.w_idle hi (.inl (by omega)) (.inl (show 2 ≠ 3 by decide))⟩
  | park g a hl hu ha he =>
    cases g with
    | q i =>
      have ha : (s.qs i).pc = a := ha
      refine ⟨⟨hp, hb, ?_, hr⟩, hP', h.q_same hl ha ha rfl .rfl⟩
      obtain rfl | rfl := he
      · exact hc.low hl (by omega) (show (s.qs i).pc ≤ 1 by omega)
      · exact hc.mid hl (by omega) (show 2 ≤ (s.qs i).pc ∧ (s.qs i).pc ≤ 5 by omega)
    | w i =>
      exact ⟨⟨hp, hb, hc, w _ hl (runB_of_pc (ha ▸ by cases he; omega))
          (runB_of_pc (x := { s.ws i with parked := true }) (ha ▸ by cases he; omega))⟩, hP',
        h.w_idle hl (.inl (ha ▸ by cases he; omega)) (.inr rfl)⟩
    | p k => exact ⟨⟨hp, hb, hc, hr⟩, hP', h⟩
  | incCnt i hi hpc =>
    exact ⟨⟨hp, hb, hc.inc hi (by omega) (show 2 ≤ 2 ∧ 2 ≤ 5 by decide), hr⟩, hP',
      h.q_same hi hpc (p' := 2) rfl rfl (by omega)⟩
  | decCnt i hi hpc =>
    exact ⟨⟨hp, hb, hc.dec hi (by omega) (Nat.zero_le 1), hr⟩, hP', h.q_same hi hpc (p' := 0) rfl rfl (by omega)⟩
  | start i hi hu hpc =>
    refine ⟨⟨hp, hb, hc, w' { s.ws i with parked := true } (s.started ++ [(s.ws i).held]).length s.finished.length hi ?_⟩,
      hP', h.start hi hpc hu rfl⟩
    rw [runB_of_unparked hu, runB_of_running (x := { s.ws i with parked := true }) hpc rfl,
      List.length_append, List.length_singleton]
    omega
  | finish i v hi hu hpc =>
    refine ⟨⟨?_, hb, hc, w' (goto (s.ws i) 0) s.started.length (s.finished ++ [(s.ws i).held]).length hi ?_⟩,
      hP', h.w_idle hi (.inr hu) (.inl (show 0 ≠ 3 by decide))⟩
    · cases v with
      | none => exact hp
      | some x => exact (List.getLast?_concat ..).symm
    · rw [runB_of_running hpc hu, runB_of_unparked (x := goto _ 0) rfl, List.length_append, List.length_singleton]
      omega
  | _ => exact ⟨⟨hp, hb, hc, hr⟩, hP', h⟩

theorem wfs_of_reachable {L Q : Nat} {s : St} (h : Reachable (cfg L Q) s) : WFS L Q s := by
  induction h with
  | init => exact ⟨invBasic_init L Q, invProd_init L, invCount_init L⟩
  | step s l s' _ hs w => exact w.step hs.toX

theorem WFS.count_le {L Q s} (w : WFS L Q s) (t : Tid) :
    (s.pending (cfg L Q) ++ s.started).count t ≤ s.accepted.count t := by
  rw [List.count_append, count_pending]; exact (w.count t).1

theorem WFS.count_eq {L Q s} (w : WFS L Q s) (hc : s.cancelled = false) (t : Tid) :
    (s.pending (cfg L Q) ++ s.started).count t = s.accepted.count t := by
  rw [List.count_append, count_pending]; exact (w.count t).2 hc

theorem WFS.accepted_count_le {L Q s} (w : WFS L Q s) (t : Tid) : s.accepted.count t ≤ 1 :=
  List.nodup_iff_count.1 w.prod.accNodup t

theorem WFS.cnt_le {L Q s} (w : WFS L Q s) : s.cnt ≤ L := by
  have h1 := w.basic.cnt.hi
  have h2 := sumG_le L inFl' s.qs 1 (fun x => by unfold inFl'; split <;> omega)
  omega


theorem Step.finish_inv {c : Cfg} {s s' : St} {l : Label} (h : Step c s l s') {i : Nat} {t : Tid}
    {v : Option Nat} (hl : l = .finish i t v) :
    ∃ n, i < c.L ∧ (s.ws i).parked = true ∧ instrAt c s (.w i) = some (.act .run n) ∧
      t = (s.ws i).held ∧
      s' = { s with ws := upd s.ws i (goto (s.ws i) n), finished := s.finished ++ [(s.ws i).held],
                    lastPanic := match (generalizing := false) v with | some x => some x | none => s.lastPanic,
                    panics := match (generalizing := false) v with | some x => s.panics ++ [x] | none => s.panics } := by
  cases h with
  | takeLocal g cs d k tg _ _ _ _ => split at hl <;> cases hl
  | finish i' n v' hi hp hin =>
    injection hl with h1 h2 h3
    subst h1 h2 h3
    exact ⟨n, hi, hp, hin, rfl, rfl⟩
  | _ => cases hl


/- `lastPanic` and its history are written by a panicking `finish` and by nothing else, and read by
   no step. -/

theorem St.set_lastPanic (s : St) (g : Gid) (x : G) : (s.set g x).lastPanic = s.lastPanic := by
  cases g <;> rfl

theorem St.set_panics (s : St) (g : Gid) (x : G) : (s.set g x).panics = s.panics := by
  cases g <;> rfl

theorem localEffect_lastPanic (s : St) (g : Gid) (k : Case) : (localEffect s g k).lastPanic = s.lastPanic := by
  unfold localEffect
  split
  · exact St.set_lastPanic ..
  · rfl
  · rfl

theorem localEffect_panics (s : St) (g : Gid) (k : Case) : (localEffect s g k).panics = s.panics := by
  unfold localEffect
  split
  · exact St.set_panics ..
  · rfl
  · rfl

theorem Step.panics_eq {c : Cfg} {s s' : St} {l : Label} (h : Step c s l s')
    (hl : ∀ i t v, l ≠ .finish i t (some v)) : s'.lastPanic = s.lastPanic ∧ s'.panics = s.panics := by
  cases h with
  | finish i n v _ _ _ =>
    cases v with
    | none => exact ⟨rfl, rfl⟩
    | some x => exact absurd rfl (hl i _ x)
  | cancel | push | start | pushRet => exact ⟨rfl, rfl⟩
  | _ =>
    simp only [St.set_lastPanic, St.set_panics, localEffect_lastPanic, localEffect_panics,
      apply_ite St.lastPanic, apply_ite St.panics, ite_self, and_self]

def erasePanics (s : St) : St := { s with lastPanic := none, panics := [] }

theorem erasePanics_set (s : St) (g : Gid) (x : G) : erasePanics (s.set g x) = (erasePanics s).set g x := by
  cases g <;> rfl

theorem erasePanics_get (s : St) (g : Gid) : (erasePanics s).get g = s.get g := by
  cases g <;> rfl

theorem erasePanics_localEffect (s : St) (g : Gid) (k : Case) :
    erasePanics (localEffect s g k) = localEffect (erasePanics s) g k := by
  unfold localEffect
  split
  · exact erasePanics_set ..
  · rfl
  · rfl

theorem Step.cast {c : Cfg} {s s₁ s₂ : St} {l : Label} (h : Step c s l s₁) (e : s₁ = s₂) : Step c s l s₂ :=
  e ▸ h

/-- every step is matched, on the panic-erased states, by a step that is not a panicking `finish` -/
theorem Step.erasePanics {c : Cfg} {s s' : St} {l : Label} (h : Step c s l s') :
    ∃ l', Step c (erasePanics s) l' (erasePanics s') ∧ ∀ i t v, l' ≠ .finish i t (some v) := by
  cases h with
  | cancel hc => exact ⟨_, Step.cancel (Glb.TaskLane.erasePanics s) hc, nofun⟩
  | push t lane hl hf => exact ⟨_, Step.push (Glb.TaskLane.erasePanics s) t lane hl hf, nofun⟩
  | takeLocal g cs d k tg hl hi hm hr =>
    have := Step.takeLocal (Glb.TaskLane.erasePanics s) g cs d k tg hl hi hm hr
    simp only [← erasePanics_localEffect, erasePanics_get, ← erasePanics_set] at this
    exact ⟨_, this, by intros; split <;> nofun⟩
  | handover g h cs d x tg th hl hi hm hq hne hp =>
    have := Step.handover (Glb.TaskLane.erasePanics s) g h cs d x tg th hl hi hm hq hne hp
    refine ⟨.tau, Step.cast this ?_, nofun⟩
    by_cases hx : x = .buf <;> simp only [hx, ↓reduceIte, erasePanics_set, erasePanics_get] <;> rfl
  | takeover g h cs d x tg th hl hi hm hq hne hp =>
    have := Step.takeover (Glb.TaskLane.erasePanics s) g h cs d x tg th hl hi hm hq hne hp
    refine ⟨.tau, Step.cast this ?_, nofun⟩
    by_cases hx : x = .buf <;> simp only [hx, ↓reduceIte, erasePanics_set, erasePanics_get] <;> rfl
  | dflt g cs d hl hnp hi hnr =>
    have := Step.dflt (Glb.TaskLane.erasePanics s) g cs d hl ((erasePanics_get s g).symm ▸ hnp) hi hnr
    rw [erasePanics_get, ← erasePanics_set] at this
    exact ⟨_, this, nofun⟩
  | park g cs hl hnp hi hnr =>
    have := Step.park (Glb.TaskLane.erasePanics s) g cs hl ((erasePanics_get s g).symm ▸ hnp) hi hnr
    rw [erasePanics_get, ← erasePanics_set] at this
    exact ⟨_, this, nofun⟩
  | incCnt g n hl hi =>
    have := Step.incCnt (Glb.TaskLane.erasePanics s) g n hl hi
    rw [erasePanics_get] at this
    exact ⟨.tau, erasePanics_set .. ▸ this, nofun⟩
  | decCnt g n hl hi =>
    have := Step.decCnt (Glb.TaskLane.erasePanics s) g n hl hi
    rw [erasePanics_get] at this
    exact ⟨.tau, erasePanics_set .. ▸ this, nofun⟩
  | start i n hl hp hi => exact ⟨_, Step.start (Glb.TaskLane.erasePanics s) i n hl hp hi, nofun⟩
  | finish i n v hl hp hi => exact ⟨_, Step.finish (Glb.TaskLane.erasePanics s) i n none hl hp hi, nofun⟩
  | pushRet k a n r hk hi hr =>
    exact ⟨_, Step.pushRet (Glb.TaskLane.erasePanics s) k a n r hk hi hr, nofun⟩

/-- reachable by a run in which no task panics -/
inductive ReachableNoPanic (c : Cfg) : St → Prop where
  | init : ReachableNoPanic c init
  | step (s l s') : ReachableNoPanic c s → Step c s l s' → (∀ i t v, l ≠ .finish i t (some v)) →
      ReachableNoPanic c s'

theorem ReachableNoPanic.reachable {c : Cfg} {s : St} (h : ReachableNoPanic c s) : Reachable c s := by
  induction h with
  | init => exact .init
  | step s l s' _ hs _ ih => exact .step s l s' ih hs

/-- sanity: such a run never sets `lastPanic` -/
theorem ReachableNoPanic.lastPanic_none {c : Cfg} {s : St} (h : ReachableNoPanic c s) :
    s.lastPanic = none ∧ s.panics = [] := by
  induction h with
  | init => exact ⟨rfl, rfl⟩
  | step s l s' _ hs hl ih =>
    obtain ⟨h1, h2⟩ := hs.panics_eq hl
    exact ⟨h1.trans ih.1, h2.trans ih.2⟩

end Glb.TaskLane
