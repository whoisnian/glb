/-
  Lemmas about the JSON handler model (C01): the separator bookkeeping of `appendJsonAttr` is the
  canonical `,`-join of the flattened member list; a derivation chain accumulates exactly the
  nested member list; the fixed head of a record; the loop of `appendJsonSource` that trims the
  file path.
-/
import Glb.Proofs.Json

set_option linter.unusedSimpArgs false

namespace Glb.JsonHandler
open Glb Glb.Json Glb.JsonString

theorem serMems_append (q : Bytes → Bytes) : ∀ (a b : List (Bytes × JV)), a ≠ [] →
    serMems q (a ++ b) = serMems q a ++ serSep q true b
  | [], _, h => absurd rfl h
  | [(k, v)], [], _ => by simp [serSep]
  | [(k, v)], m :: ms, _ => by simp [serSep, serMems]
  | (k, v) :: m :: ms, b, _ => by
    have := serMems_append q (m :: ms) b (by simp)
    simp only [List.cons_append] at this
    simp [serMems, this]

theorem serSep_append (q : Bytes → Bytes) (sep : Bool) (a b : List (Bytes × JV)) :
    serSep q sep (a ++ b) = serSep q sep a ++ serSep q (sep || !a.isEmpty) b := by
  cases a with
  | nil => simp [serSep]
  | cons m ms =>
    have := serMems_append q (m :: ms) b (by simp)
    simp only [List.cons_append] at this
    simp [serSep, this]

theorem serSep_false (q : Bytes → Bytes) (ms : List (Bytes × JV)) : serSep q false ms = serMems q ms := by
  cases ms <;> simp [serSep, serMems]

theorem serSep_group (q : Bytes → Bytes) (sep : Bool) (k : Bytes) (ms : List (Bytes × JV)) :
    serSep q sep [(k, .obj ms)] =
      (if sep then [0x2C] else []) ++ 0x22 :: q k ++ [0x22, 0x3A, 0x7B] ++ serSep q false ms ++ [0x7D] := by
  rw [serSep_false]
  simp [serSep, serMems, ser]

theorem plain_safe {b : UInt8} (h : plainAscii b = true) : safeByte b = true := by
  simp only [plainAscii, Bool.and_eq_true, decide_eq_true_eq, bne_iff_ne, ne_eq] at h
  simp [safeByte, safe_eq b h.1.1.2, h.1.1.1, h.1.1.2, h.1.2, h.2]

theorem ajs_plain {t : Bytes} (h : ∀ b ∈ t, plainAscii b = true) : appendJsonString t = t :=
  ajs_safe t (fun b hb => plain_safe (h b hb))

theorem ajs_nilText : appendJsonString nilText = nilText := by decide

theorem value_ser (v : Leaf) (h : LeafOk v) : appendJsonValue v = ser appendJsonString (leafSrc v) := by
  cases v with
  | str s => rfl
  | num t => rfl
  | bool b => rfl
  | time t => simp only [LeafOk] at h; simp [appendJsonValue, leafSrc, ser, ajs_plain h]
  | enc r => cases r <;> rfl
  | err m => rfl
  | ansi m => rfl
  | panicNil => simp [appendJsonValue, leafSrc, ser, ajs_nilText]
  | panicMsg m => rfl

mutual
theorem attr_render' : ∀ (a : Attr), AttrOk a → ∀ (buf : Bytes) (sep : Bool),
    appendJsonAttr buf a sep =
      (buf ++ serSep appendJsonString sep (membersSrc a), !(membersSrc a).isEmpty)
  | .leaf k v, h, buf, sep => by
    cases sep <;> simp [appendJsonAttr, membersSrc, serSep, serMems, value_ser v h]
  | .group k as, h, buf, sep => by
    have := fun b s => attrLoop_render' as h b s false
    by_cases hk : k.isEmpty = true
    · simp [appendJsonAttr, membersSrc, hk, this]
    · cases sep <;> simp [appendJsonAttr, membersSrc, hk, this, serSep_group]
theorem attrLoop_render' : ∀ (as : List Attr), AttrsOk as → ∀ (buf : Bytes) (sep wrote : Bool),
    attrLoop buf as sep wrote =
      (buf ++ serSep appendJsonString sep (membersSrcL as),
       sep || !(membersSrcL as).isEmpty, wrote || !(membersSrcL as).isEmpty)
  | [], _, buf, sep, wrote => by simp [attrLoop, membersSrcL, serSep]
  | a :: as, h, buf, sep, wrote => by
    rw [attrLoop, attr_render' a h.1 buf sep, membersSrcL, serSep_append]
    cases membersSrc a with
    | nil => simp [attrLoop_render' as h.2, serSep]
    | cons m ms => simp [attrLoop_render' as h.2]
end

theorem deriveAll_cons (h : H) (d : Deriv) (ds : List Deriv) : deriveAll h (d :: ds) = deriveAll (derive h d) ds :=
  rfl

theorem chain_render : ∀ (ds : List Deriv), ChainOk ds → ∀ (h0 : H) (tail : List (Bytes × JV)),
    (deriveAll h0 ds).pre ++ serSep appendJsonString (deriveAll h0 ds).addSep tail
        ++ List.replicate (deriveAll h0 ds).nOpenGroups 0x7D =
      h0.pre ++ serSep appendJsonString h0.addSep (nestSrc ds tail) ++ List.replicate h0.nOpenGroups 0x7D
  | [], _, h0, tail => rfl
  | .attrs as :: ds, hc, h0, tail => by
    rw [deriveAll_cons, chain_render ds hc.2]
    simp [derive, withAttrs, attrLoop_render' as hc.1, nestSrc, serSep_append]
  | .group g :: ds, hc, h0, tail => by
    rw [deriveAll_cons, chain_render ds hc.2]
    cases hs : h0.addSep <;> simp [derive, withGroup, hs, nestSrc, serSep_group, List.replicate_succ]

theorem OkM_append : ∀ (a b : List (Bytes × JV)), OkM a → OkM b → OkM (a ++ b)
  | [], _, _, hb => hb
  | (_, _) :: a, b, ha, hb => ⟨ha.1, OkM_append a b ha.2 hb⟩

theorem leafSrc_ok (v : Leaf) (h : LeafOk v) : (leafSrc v).Ok := by
  cases v with
  | num t => exact h
  | enc r => cases r <;> exact h
  | _ => trivial

mutual
theorem membersSrc_ok : ∀ (a : Attr), AttrOk a → OkM (membersSrc a)
  | .leaf k v, h => ⟨leafSrc_ok v h, trivial⟩
  | .group k as, h => by
    have := membersSrcL_ok as h
    by_cases hk : k.isEmpty = true <;> simp [membersSrc, hk, OkM, JV.Ok, this]
theorem membersSrcL_ok : ∀ (as : List Attr), AttrsOk as → OkM (membersSrcL as)
  | [], _ => trivial
  | a :: as, h => OkM_append _ _ (membersSrc_ok a h.1) (membersSrcL_ok as h.2)
end

theorem nestSrc_ok : ∀ (ds : List Deriv), ChainOk ds → ∀ tail, OkM tail → OkM (nestSrc ds tail)
  | [], _, _, ht => ht
  | .attrs as :: ds, hc, tail, ht => OkM_append _ _ (membersSrcL_ok as hc.1) (nestSrc_ok ds hc.2 tail ht)
  | .group _ :: ds, hc, tail, ht => ⟨nestSrc_ok ds hc.2 tail ht, trivial⟩

theorem expectedSrc_ok (addSource : Bool) (chain : List Deriv) (r : Rec) (hc : ChainOk chain) (hr : RecOk r) :
    (expectedSrc addSource chain r).Ok := by
  have := nestSrc_ok chain hc _ (membersSrcL_ok r.attrs hr.2.2)
  cases addSource <;> simp [expectedSrc, JV.Ok, OkM, hr.2.1, this]

theorem ajs_keys : appendJsonString kTime = kTime ∧ appendJsonString kLevel = kLevel ∧
    appendJsonString kSource = kSource ∧ appendJsonString kMsg = kMsg ∧
    appendJsonString kFile = kFile ∧ appendJsonString kLine = kLine := by decide

theorem level_ok {l : Int} (h : validLevel l = true) :
    fullLevel l = .ok (levelName l) ∧ appendJsonString (levelName l) = levelName l := by
  have := (Tie.Logger.validLevel_iff l).mp h
  have hf := Tie.Logger.labelList_full
  simp only [List.mem_cons, List.not_mem_nil, or_false] at this
  rcases this with rfl | rfl | rfl | rfl | rfl
  · exact ⟨hf.1, by decide⟩
  · exact ⟨hf.2.1, by decide⟩
  · exact ⟨hf.2.2.1, by decide⟩
  · exact ⟨hf.2.2.2.1, by decide⟩
  · exact ⟨hf.2.2.2.2, by decide⟩

/-- what `Handle` writes before the handler's preformatted attributes:
    `{"time":…,"level":…[,"source":{…}],"msg":…` -/
def lineHead (addSource : Bool) (r : Rec) (lvl : Bytes) : Bytes :=
  0x7B :: 0x22 :: kTime ++ [0x22, 0x3A, 0x22] ++ r.time ++ [0x22, 0x2C, 0x22] ++ kLevel ++ [0x22, 0x3A, 0x22]
    ++ lvl ++ [0x22]
    ++ (if addSource then [0x2C, 0x22] ++ kSource ++ [0x22, 0x3A, 0x7B] ++ appendJsonSource r.file r.line ++ [0x7D]
        else [])
    ++ [0x2C, 0x22] ++ kMsg ++ [0x22, 0x3A, 0x22] ++ appendJsonString r.msg ++ [0x22]

/-- `Handle` in one equation: the level label (or its panic), then head, preformatted attributes,
    the record's attributes, one `}` per open group, `}` and newline -/
theorem handle_eq (addSource : Bool) (h : H) (r : Rec) :
    handle addSource h r = (fullLevel r.level).map fun lvl =>
      (attrLoop (lineHead addSource r lvl ++ h.pre) r.attrs h.addSep false).1
        ++ List.replicate h.nOpenGroups 0x7D ++ [0x7D, 0x0A] := by
  unfold handle lineHead
  cases fullLevel r.level
  · rfl
  · cases addSource <;> simp [Except.map, bind, Except.bind, pure, Except.pure]

/-- the members of `expectedSrc` that come from the record itself -/
def headMembers (addSource : Bool) (r : Rec) : List (Bytes × JV) :=
  [(kTime, .str r.time), (kLevel, .str (levelName r.level))]
    ++ (if addSource then [(kSource, .obj [(kFile, .str (trimSource r.file)), (kLine, .num r.line)])] else [])
    ++ [(kMsg, .str r.msg)]

theorem lineHead_ser (addSource : Bool) (r : Rec) (ht : ∀ b ∈ r.time, plainAscii b = true)
    (hl : validLevel r.level = true) :
    lineHead addSource r (levelName r.level) = 0x7B :: serMems appendJsonString (headMembers addSource r) := by
  obtain ⟨k1, k2, k3, k4, k5, k6⟩ := ajs_keys
  cases addSource <;>
    simp [lineHead, headMembers, serMems, ser, appendJsonSource, k1, k2, k3, k4, k5, k6, ajs_plain ht,
      (level_ok hl).2]

/-- the model's line is the canonical serialization of the source tree, plus the newline -/
theorem handle_eq_ser (addSource : Bool) (chain : List Deriv) (r : Rec)
    (hc : ChainOk chain) (hr : RecOk r) (hl : validLevel r.level = true) :
    handle addSource (deriveAll H.init chain) r =
      .ok (ser appendJsonString (expectedSrc addSource chain r) ++ [0x0A]) := by
  -- from `NewJsonHandler`: nothing preformatted, no open group, separator due
  have hch : _ = serSep appendJsonString true (nestSrc chain (membersSrcL r.attrs)) :=
    (chain_render chain hc H.init (membersSrcL r.attrs)).trans (by simp [H.init])
  have he : expectedSrc addSource chain r
      = .obj (headMembers addSource r ++ nestSrc chain (membersSrcL r.attrs)) := rfl
  have hne : headMembers addSource r ≠ [] := by simp [headMembers]
  rw [handle_eq, (level_ok hl).1, he]
  simp only [Except.map, attrLoop_render' r.attrs hr.2.2, lineHead_ser addSource r hr.1 hl, ser,
    serMems_append _ _ _ hne, ← hch]
  simp [List.append_assoc]

theorem sourceLoop_slash (file : Bytes) (idx : Nat) (first : Bool) (h : file[idx + 1]? = some 0x2F) :
    sourceLoop file (idx + 1) first = if first then idx + 1 else sourceLoop file idx true := by
  rw [sourceLoop]; simp [h]

/-- bytes other than `/` are passed over: from the last byte of `s` down to the byte `c` before `s` -/
theorem sourceLoop_pass (file : Bytes) (first : Bool) : ∀ (s p : Bytes) (c : UInt8) (t : Bytes),
    file = p ++ c :: s ++ t → 0x2F ∉ s →
    sourceLoop file (p.length + s.length) first = sourceLoop file p.length first
  | [], _, _, _, _, _ => rfl
  | x :: s, p, c, t, hf, hs => by
    have ih := sourceLoop_pass file first s (p ++ [c]) x t (by simp [hf]) (fun h => hs (List.mem_cons_of_mem _ h))
    have hx : (file[p.length + 1]? == some 0x2F) = false := by
      have : x ≠ 0x2F := fun e => hs (e ▸ List.mem_cons_self)
      subst hf
      simpa using this
    rw [List.length_append, List.length_singleton] at ih
    rw [List.length_cons, ← Nat.add_assoc, Nat.add_right_comm, ih, sourceLoop, hx]
    rfl

theorem sourceLoop_le (file : Bytes) : ∀ (idx : Nat) (first : Bool), sourceLoop file idx first ≤ idx
  | 0, _ => by simp [sourceLoop]
  | idx + 1, first => by
    rw [sourceLoop]
    have h1 := sourceLoop_le file idx true
    have h2 := sourceLoop_le file idx first
    split
    · split <;> omega
    · omega

end Glb.JsonHandler
