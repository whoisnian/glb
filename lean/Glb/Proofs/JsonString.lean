/-
  Lemmas about `appendJsonString` (C01): unfolding equations of the byte loop, one round of the loop
  (`Round`: what it passes, what it writes, what `san` keeps), and from that faithfulness w.r.t. the
  JSON string grammar `PStr` / `san` and the absence of control bytes.
-/
import Glb.Spec.Json
import Glb.Tie.Logger
import Glb.Proofs.Utf8

namespace Glb.JsonString
open Glb Glb.JsonHandler Glb.Json Glb.Utf8

theorem safe_eq (b : UInt8) (hb : b < 0x80) : safe b = decide (0x20 ≤ b ∧ b ≠ 0x22 ∧ b ≠ 0x5C) := by
  have hn : b.toNat < 128 := by simpa [UInt8.lt_iff_toNat_lt] using hb
  simp [safe, Tie.Logger.safeSet_spec b.toNat (List.mem_range.mpr hn), UInt8.le_iff_toNat_le,
    ← UInt8.toNat_inj]

theorem hexAt_spec : ∀ n ∈ List.range 16, hexVal (hexAt n) = some n ∧ 0x20 ≤ hexAt n := by decide

theorem encodeRune_ascii {b : UInt8} (hb : b < 0x80) : Utf8.encodeRune b.toNat = [b] := by
  have hn : b.toNat < 128 := by simpa [UInt8.lt_iff_toNat_lt] using hb
  simp [Utf8.encodeRune, hn]

theorem escAscii_PStr {b : UInt8} (hb : b < 0x80) (hs : safe b = false) {s d r : Bytes} (h : PStr s d r) :
    PStr (escAscii b ++ s) (b :: d) r := by
  unfold escAscii
  split
  · rename_i e
    exact PStr.esc (by rcases (by simpa using e : b = 0x5C ∨ b = 0x22) with rfl | rfl <;> rfl) h
  split
  · rename_i e; cases beq_iff_eq.mp e; exact PStr.esc rfl h
  split
  · rename_i e; cases beq_iff_eq.mp e; exact PStr.esc rfl h
  split
  · rename_i e; cases beq_iff_eq.mp e; exact PStr.esc rfl h
  · -- a control character: `\u00XX`, and `hexVal` inverts `hexAt`
    have hlt : b.toNat < 0x20 := by
      rw [safe_eq b hb] at hs
      rename_i e1 _ _ _
      have e : b ≠ 0x5C ∧ b ≠ 0x22 := by simpa using e1
      have : ¬ 0x20 ≤ b := fun h => of_decide_eq_false hs ⟨h, e.2, e.1⟩
      simpa [UInt8.le_iff_toNat_le] using this
    have h1 := (hexAt_spec (b.toNat / 16) (List.mem_range.mpr (by omega))).1
    have h2 := (hexAt_spec (b.toNat % 16) (List.mem_range.mpr (by omega))).1
    have hx : hex4 0x30 0x30 (hexAt (b.toNat / 16)) (hexAt (b.toNat % 16)) = some b.toNat := by
      simp only [hex4, h1, h2, (by decide : hexVal 0x30 = some 0)]
      congr 1
      omega
    have := PStr.uni hx (by simp [isSurr]; omega) h
    rwa [encodeRune_ascii hb] at this

theorem escAscii_ge (b : UInt8) : ∀ x ∈ escAscii b, 0x20 ≤ x := by
  have h1 := (hexAt_spec (b.toNat / 16) (List.mem_range.mpr (by have := b.toNat_lt; omega))).2
  have h2 := (hexAt_spec (b.toNat % 16) (List.mem_range.mpr (by omega))).2
  unfold escAscii
  split
  · rename_i e
    rcases (by simpa using e : b = 0x5C ∨ b = 0x22) with rfl | rfl <;> decide
  split
  · decide
  split
  · decide
  split
  · decide
  · simp [h1, h2]

theorem ajsGo_zero (cp : Bool) (s : Bytes) : ajsGo 0 cp s = ajsGo 0 true s := by
  cases s <;> simp [ajsGo]

theorem ajsGo_copy (k : Nat) (s : Bytes) : ajsGo k true s = s.take k ++ ajsGo 0 true (s.drop k) := by
  induction s generalizing k with
  | nil => cases k <;> simp [ajsGo]
  | cons b rest ih =>
    cases k with
    | zero => simp
    | succ k => simp [ajsGo, ih]

theorem ajsGo_drop (k : Nat) (s : Bytes) : ajsGo k false s = ajsGo 0 true (s.drop k) := by
  induction s generalizing k with
  | nil => cases k <;> simp [ajsGo]
  | cons b rest ih =>
    cases k with
    | zero => simpa using ajsGo_zero false (b :: rest)
    | succ k => simp [ajsGo, ih]

theorem ajs_nil : appendJsonString [] = [] := by simp [appendJsonString, ajsGo]

theorem ajs_ascii (b : UInt8) (rest : Bytes) (hb : b < 0x80) :
    appendJsonString (b :: rest) = (if safe b then [b] else escAscii b) ++ appendJsonString rest := by
  simp [appendJsonString, ajsGo, hb]

theorem ajs_multi (b : UInt8) (rest : Bytes) (hb : ¬ b < 0x80) :
    appendJsonString (b :: rest) =
      let cs := decodeRune (b :: rest)
      if cs.1 == runeError && cs.2 == 1 then escInvalid ++ appendJsonString rest
      else if cs.1 == 0x2028 || cs.1 == 0x2029 then escLineSep cs.1 ++ appendJsonString (rest.drop (cs.2 - 1))
      else b :: rest.take (cs.2 - 1) ++ appendJsonString (rest.drop (cs.2 - 1)) := by
  simp only [appendJsonString]
  rw [ajsGo]
  simp only [hb, if_false]
  split
  · rfl
  · split
    · rw [ajsGo_drop]
    · rw [ajsGo_copy]; simp

theorem san_nil : san [] = [] := by simp [san]

theorem san_cons (b : UInt8) (rest : Bytes) :
    san (b :: rest) =
      let cs := decodeRune (b :: rest)
      if cs.1 == runeError && cs.2 == 1 then replacement ++ san rest
      else (b :: rest).take cs.2 ++ san ((b :: rest).drop cs.2) := by
  rw [san]

theorem decodeRune_ascii (b : UInt8) (rest : Bytes) (hb : b < 0x80) :
    decodeRune (b :: rest) = (b.toNat, 1) := by
  simp [decodeRune, hb]

/-- One round on `b :: rest`: the loop passes `k + 1` bytes and writes `E`, `san` keeps `D` of them;
    `E` is a sequence of string characters denoting `D`, without control bytes. -/
structure Round (b : UInt8) (rest : Bytes) (k : Nat) (E D : Bytes) : Prop where
  ajs : appendJsonString (b :: rest) = E ++ appendJsonString (rest.drop k)
  san : san (b :: rest) = D ++ san (rest.drop k)
  pstr : ∀ {s d r : Bytes}, PStr s d r → PStr (E ++ s) (D ++ d) r
  ge : ∀ x ∈ E, 0x20 ≤ x

theorem ajs_round (b : UInt8) (rest : Bytes) : ∃ k E D, Round b rest k E D := by
  by_cases hb : b < 0x80
  · have hsan : san (b :: rest) = [b] ++ san rest := by
      have hne : ¬ (b.toNat = runeError) := by
        have : b.toNat < 128 := by simpa [UInt8.lt_iff_toNat_lt] using hb
        simp [runeError]; omega
      simp [san_cons, decodeRune_ascii _ _ hb, hne]
    cases hs : safe b
    · exact ⟨0, escAscii b, [b], by simp [ajs_ascii _ _ hb, hs], hsan, escAscii_PStr hb hs, escAscii_ge b⟩
    · obtain ⟨h1, h2, h3⟩ := of_decide_eq_true (safe_eq b hb ▸ hs)
      exact ⟨0, [b], [b], by simp [ajs_ascii _ _ hb, hs], hsan, PStr.plain h1 hb h2 h3, by simpa using h1⟩
  · have hajs := ajs_multi b rest hb
    have hsan := san_cons b rest
    have hc := decodeRune_cases b rest
    by_cases hsz : 2 ≤ (decodeRune (b :: rest)).2
    · have M := decode_multi b rest hsz
      generalize decodeRune (b :: rest) = cs at hc M hsz hajs hsan
      obtain ⟨n, hn⟩ : ∃ n, cs.2 = n + 1 := ⟨cs.2 - 1, by omega⟩
      have hne : ¬ (cs.1 = runeError ∧ n + 1 = 1) := by omega
      simp only [beq_iff_eq, Bool.and_eq_true, Bool.or_eq_true, hn, Nat.add_sub_cancel, if_neg hne,
        List.take_succ_cons, List.drop_succ_cons] at hajs hsan
      by_cases hls : cs.1 = 0x2028 ∨ cs.1 = 0x2029
      · -- U+2028 / U+2029: `\u202X`; what `san` keeps is `encodeRune` of the rune
        rw [if_pos hls] at hajs
        have he := M.enc
        rw [hn, List.take_succ_cons] at he
        refine ⟨n, _, _, hajs, he ▸ hsan, fun h => ?_, ?_⟩
        · exact PStr.uni (a := 0x32) (b := 0x30) (c := 0x32) (e := hexAt (cs.1 % 16))
            (by rcases hls with h | h <;> rw [h] <;> decide) (by rcases hls with h | h <;> rw [h] <;> decide) h
        · have := (hexAt_spec _ (List.mem_range.mpr (Nat.mod_lt cs.1 (by decide : 0 < 16)))).2
          simp [escLineSep, this]
      · rw [if_neg hls] at hajs
        refine ⟨n, _, _, hajs, hsan, fun h => ?_, ?_⟩
        · cases hc with
          | ascii h' => exact absurd h' hb
          | bad _ => simp at hsz
          | two hl hr h1 h2 => subst hr; cases hn; exact PStr.multi2 hl h1 h2 h
          | three hl hr h1 h2 h3 => subst hr; cases hn; exact PStr.multi3 hl h1 h2 h3 h
          | four hl hr h1 h2 h3 h4 => subst hr; cases hn; exact PStr.multi4 hl h1 h2 h3 h4 h
        · intro x hx
          exact UInt8.le_trans (by decide) (M.high x (by rw [hn, List.take_succ_cons]; exact hx))
    · generalize decodeRune (b :: rest) = cs at hc hsz hajs hsan
      cases hc with
      | ascii h => exact absurd h hb
      | bad _ =>
        exact ⟨0, escInvalid, replacement, by simpa using hajs, by simpa using hsan,
          fun h => PStr.uni (a := 0x66) (b := 0x66) (c := 0x66) (e := 0x64) (cp := 0xFFFD) (by decide) (by decide) h,
          by decide⟩
      | two => simp at hsz
      | three => simp at hsz
      | four => simp at hsz

theorem ajs_PStr : ∀ (s r : Bytes), PStr (appendJsonString s ++ 0x22 :: r) (san s) r
  | [], r => by simpa [ajs_nil, san_nil] using PStr.done r
  | b :: rest, r => by
    obtain ⟨k, E, D, R⟩ := ajs_round b rest
    rw [R.ajs, R.san, List.append_assoc]
    exact R.pstr (ajs_PStr (rest.drop k) r)
termination_by s => s.length
decreasing_by
  simp only [List.length_cons, List.length_drop]
  omega

theorem ajs_ge : ∀ (s : Bytes), ∀ x ∈ appendJsonString s, 0x20 ≤ x
  | [] => by simp [ajs_nil]
  | b :: rest => by
    obtain ⟨k, E, D, R⟩ := ajs_round b rest
    intro x hx
    rw [R.ajs] at hx
    rcases List.mem_append.mp hx with hx | hx
    · exact R.ge x hx
    · exact ajs_ge (rest.drop k) x hx
termination_by s => s.length
decreasing_by
  simp only [List.length_cons, List.length_drop]
  omega

/-- a byte the loop copies unchanged -/
def safeByte (b : UInt8) : Bool := b < 0x80 && safe b

theorem ajs_safe : ∀ (s : Bytes), (∀ x ∈ s, safeByte x = true) → appendJsonString s = s
  | [], _ => ajs_nil
  | b :: rest, h => by
    have hb := h b (by simp)
    simp only [safeByte, Bool.and_eq_true, decide_eq_true_eq] at hb
    rw [ajs_ascii _ _ hb.1, ajs_safe rest (fun x hx => h x (by simp [hx]))]
    simp [hb.2]

end Glb.JsonString
