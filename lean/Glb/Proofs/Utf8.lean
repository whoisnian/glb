/-
  One step of the UTF-8 decoder model `Utf8.decodeRune`, for all the byte loops built on it
  (`appendJsonString`, `appendTextString`, the models of `strconv.Quote` / `Unquote`):
  the rows of the `lead` table in naturals (`Row2`, `Row3`, `Row4`), the five outcomes of a step (`DecCase`),
  the arithmetic between the bytes of a sequence and its rune (`digits2/3/4`: base-64 digits; `payload2/3/4`:
  the payload bits the table allows), what a well-formed multi-byte sequence is worth
  (`Multi`), and the converse: `decodeRune` inverts `encodeRune` on scalar values.
-/
import Glb.Model.Utf8

namespace Glb.Utf8

/- Bytes and their values.  `forall_uint8` turns a statement about every byte into 256 closed instances,
   which is how the two facts about the `lead` table below are checked. -/
theorem forall_uint8 (p : UInt8 → Prop) (h : ∀ n ∈ List.range 256, p (UInt8.ofNat n)) : ∀ b, p b :=
  fun b => by simpa using h b.toNat (List.mem_range.mpr b.toNat_lt)

theorem ofNat_eq {n : Nat} {b : UInt8} (h : n = b.toNat) : UInt8.ofNat n = b := by
  subst h; simp

theorem toNat_ofNat_le {n m : Nat} (h : n ≤ m) (hm : m < 256) : (UInt8.ofNat n).toNat = n := by
  simp [Nat.mod_eq_of_lt (Nat.lt_of_le_of_lt h hm)]

theorem ge80 {b : UInt8} (h : 0x80 ≤ b.toNat) : 0x80 ≤ b ∧ ¬ b < 0x80 := by
  simp only [UInt8.le_iff_toNat_le, UInt8.lt_iff_toNat_lt]
  exact ⟨h, Nat.not_lt.mpr h⟩

def Cont (c : Nat) : Prop := 0x80 ≤ c ∧ c ≤ 0xBF

theorem isCont_iff {b : UInt8} : isCont b = true ↔ Cont b.toNat := by
  simp [isCont, UInt8.le_iff_toNat_le, Cont]

/- Go's `first` / `acceptRanges` tables in naturals: after a lead byte `a` of size 2 (C2..DF), 3 (E0..EF)
   or 4 (F0..F4) the second byte ranges over `lo .. hi` within 80..BF, except from A0 after E0, from 90
   after F0, up to 9F after ED and up to 8F after F4. -/
def Row2 (a lo hi : Nat) : Prop := (0xC2 ≤ a ∧ a ≤ 0xDF) ∧ 0x80 ≤ lo ∧ hi ≤ 0xBF

def Row3 (a lo hi : Nat) : Prop :=
  (0xE0 ≤ a ∧ a ≤ 0xEF) ∧ (0x80 ≤ lo ∧ hi ≤ 0xBF) ∧ (a = 0xE0 → 0xA0 ≤ lo) ∧ (a = 0xED → hi ≤ 0x9F)

def Row4 (a lo hi : Nat) : Prop :=
  (0xF0 ≤ a ∧ a ≤ 0xF4) ∧ (0x80 ≤ lo ∧ hi ≤ 0xBF) ∧ (a = 0xF0 → 0x90 ≤ lo) ∧ (a = 0xF4 → hi ≤ 0x8F)

def LeadRow (a : Nat) (x : Nat × UInt8 × UInt8) : Prop :=
  x.1 = 2 ∧ Row2 a x.2.1.toNat x.2.2.toNat ∨ x.1 = 3 ∧ Row3 a x.2.1.toNat x.2.2.toNat ∨
    x.1 = 4 ∧ Row4 a x.2.1.toNat x.2.2.toNat

instance (a x) : Decidable (LeadRow a x) := by unfold LeadRow Row2 Row3 Row4; infer_instance

theorem lead_table : ∀ b : UInt8, (lead b).all (fun x => decide (LeadRow b.toNat x)) = true :=
  forall_uint8 _ (by decide +kernel)

theorem lead_some {b : UInt8} {x : Nat × UInt8 × UInt8} (h : lead b = some x) : LeadRow b.toNat x := by
  simpa [h] using lead_table b

theorem lead_of_range : ∀ b : UInt8,
    (0xC2 ≤ b.toNat ∧ b.toNat ≤ 0xDF → lead b = some (2, 0x80, 0xBF)) ∧
    (0xE0 ≤ b.toNat ∧ b.toNat ≤ 0xEF →
      lead b = some (3, if b.toNat = 0xE0 then 0xA0 else 0x80, if b.toNat = 0xED then 0x9F else 0xBF)) ∧
    (0xF0 ≤ b.toNat ∧ b.toNat ≤ 0xF4 →
      lead b = some (4, if b.toNat = 0xF0 then 0x90 else 0x80, if b.toNat = 0xF4 then 0x8F else 0xBF)) :=
  forall_uint8 _ (by decide +kernel)

/- a byte against a bound of the shape `lead_of_range` gives -/
theorem ite_le {c : Prop} [Decidable c] {x y b : UInt8} (h1 : c → x.toNat ≤ b.toNat) (h2 : y.toNat ≤ b.toNat) :
    (if c then x else y) ≤ b := by
  rw [UInt8.le_iff_toNat_le]
  split
  · exact h1 ‹_›
  · exact h2

theorem le_ite {c : Prop} [Decidable c] {x y b : UInt8} (h1 : c → b.toNat ≤ x.toNat) (h2 : b.toNat ≤ y.toNat) :
    b ≤ (if c then x else y) := by
  rw [UInt8.le_iff_toNat_le]
  split
  · exact h1 ‹_›
  · exact h2

theorem lead_ge {b : UInt8} {x : Nat × UInt8 × UInt8} (h : lead b = some x) : 0x80 ≤ b.toNat := by
  have := lead_some h
  simp only [LeadRow, Row2, Row3, Row4] at this
  omega

/-- what `decodeRune (b0 :: rest)` returns -/
inductive DecCase (b0 : UInt8) (rest : Bytes) : Nat × Nat → Prop where
  | ascii : b0 < 0x80 → DecCase b0 rest (b0.toNat, 1)
  | bad : 0x80 ≤ b0 → DecCase b0 rest (runeError, 1)
  | two {lo hi b1 t} : lead b0 = some (2, lo, hi) → rest = b1 :: t → lo ≤ b1 → b1 ≤ hi →
      DecCase b0 rest (b0.toNat % 32 * 64 + b1.toNat % 64, 2)
  | three {lo hi b1 b2 t} : lead b0 = some (3, lo, hi) → rest = b1 :: b2 :: t → lo ≤ b1 → b1 ≤ hi →
      isCont b2 = true →
      DecCase b0 rest (b0.toNat % 16 * 4096 + b1.toNat % 64 * 64 + b2.toNat % 64, 3)
  | four {lo hi b1 b2 b3 t} : lead b0 = some (4, lo, hi) → rest = b1 :: b2 :: b3 :: t → lo ≤ b1 → b1 ≤ hi →
      isCont b2 = true → isCont b3 = true →
      DecCase b0 rest (b0.toNat % 8 * 262144 + b1.toNat % 64 * 4096 + b2.toNat % 64 * 64 + b3.toNat % 64, 4)

theorem decodeRune_cases (b0 : UInt8) (rest : Bytes) : DecCase b0 rest (decodeRune (b0 :: rest)) := by
  generalize hs : b0 :: rest = s
  fun_cases decodeRune s <;> cases hs
  case case2 h => exact .ascii h
  case case6 sz lo hi b1 t h1 h2 _ hl =>
    cases (by simpa using h2 : sz = 2)
    have h1 : lo ≤ b1 ∧ b1 ≤ hi := by simpa using h1
    exact .two hl rfl h1.1 h1.2
  case case9 sz lo hi b1 h1 _ b2 t hc2 h3 _ hl =>
    cases (by simpa using h3 : sz = 3)
    have h1 : lo ≤ b1 ∧ b1 ≤ hi := by simpa using h1
    exact .three hl rfl h1.1 h1.2 (by simpa using hc2)
  case case12 sz lo hi b1 h1 h2 b2 hc2 h3 b3 t hc3 _ hl =>
    obtain ⟨e, _⟩ | ⟨e, _⟩ | ⟨e, _⟩ := lead_some hl
    · exact absurd e (by simpa using h2)
    · exact absurd e (by simpa using h3)
    cases (e : sz = 4)
    have h1 : lo ≤ b1 ∧ b1 ≤ hi := by simpa using h1
    exact .four hl rfl h1.1 h1.2 (by simpa using hc2) (by simpa using hc3)
  -- the seven error exits
  all_goals exact .bad (by simpa using ‹¬ b0 < 128›)

theorem add_low {p m y : Nat} (hp : p % m = 0) (hy : y < m) : (p + y) % m = y := by
  rw [Nat.add_mod, hp, Nat.zero_add, Nat.mod_mod, Nat.mod_eq_of_lt hy]

/- a byte in `p .. p + m - 1` (`m` divides `p`) is `p` plus its low bits; `low_eq` is used when a sequence is
   decoded, `add_low` when a rune is encoded -/
theorem low_eq {p m n : Nat} (hp : p % m = 0) (h1 : p ≤ n) (h2 : n < p + m) : p + n % m = n := by
  obtain ⟨y, rfl⟩ := Nat.exists_eq_add_of_le h1
  rw [add_low hp (Nat.lt_of_add_lt_add_left h2)]

theorem cont_eq {c : Nat} (h : Cont c) : 0x80 + c % 64 = c :=
  low_eq rfl h.1 (Nat.lt_succ_of_le h.2)

theorem cont_add {y : Nat} (hy : y < 64) : Cont (0x80 + y) ∧ (0x80 + y) % 64 = y :=
  ⟨⟨Nat.le_add_right _ _, Nat.add_le_add_left (Nat.le_of_lt_succ hy) _⟩, add_low rfl hy⟩

theorem toNat_cont {c : Nat} (h : Cont c) : (UInt8.ofNat c).toNat = c :=
  toNat_ofNat_le h.2 (by decide)

theorem mod64 (n : Nat) : n % 64 < 64 := Nat.mod_lt n (by decide)

theorem digits2 {x y r : Nat} (hy : y < 64) : x * 64 + y = r ↔ x = r / 64 ∧ y = r % 64 := by
  omega

theorem digits3 {x y z r : Nat} (hy : y < 64) (hz : z < 64) :
    x * 4096 + y * 64 + z = r ↔ x = r / 4096 ∧ y = r / 64 % 64 ∧ z = r % 64 := by
  rw [show x * 4096 + y * 64 + z = (x * 64 + y) * 64 + z by omega, digits2 hz, digits2 hy,
    Nat.div_div_eq_div_mul, and_assoc]

theorem digits4 {w x y z r : Nat} (hx : x < 64) (hy : y < 64) (hz : z < 64) :
    w * 262144 + x * 4096 + y * 64 + z = r ↔
      w = r / 262144 ∧ x = r / 4096 % 64 ∧ y = r / 64 % 64 ∧ z = r % 64 := by
  rw [show w * 262144 + x * 4096 + y * 64 + z = (w * 64 + x) * 4096 + y * 64 + z by omega, digits3 hy hz,
    digits2 hx, Nat.div_div_eq_div_mul, and_assoc]

/-- `r` is a Unicode scalar value (`utf8.ValidRune`) -/
def Scalar (r : Nat) : Prop := r < 0xD800 ∨ 0xDFFF < r ∧ r ≤ 0x10FFFF

/- The rows of the table allow the payloads of the shortest encodings of scalar values: 2 ≤ `x` in
   a two-byte sequence; in a three-byte one 0x20 ≤ `y` after E0 (no overlong form) and `y` < 0x20 after ED
   (no surrogate); in a four-byte one 0x10 ≤ `x` after F0 and `x` < 0x10 after F4 (at most U+10FFFF). -/
theorem payload2 {x y r : Nat} (hy : y < 64) (hr : x * 64 + y = r) :
    Row2 (0xC0 + x) (0x80 + y) (0x80 + y) ↔ 0x80 ≤ r ∧ r < 0x800 ∧ Scalar r := by
  unfold Row2 Scalar
  omega

theorem payload3 {x y z r : Nat} (hy : y < 64) (hz : z < 64) (hr : x * 4096 + y * 64 + z = r) :
    Row3 (0xE0 + x) (0x80 + y) (0x80 + y) ↔ 0x800 ≤ r ∧ r < 0x10000 ∧ Scalar r := by
  unfold Row3 Scalar
  omega

theorem payload4 {w x y z r : Nat} (hx : x < 64) (hy : y < 64) (hz : z < 64)
    (hr : w * 262144 + x * 4096 + y * 64 + z = r) :
    Row4 (0xF0 + w) (0x80 + x) (0x80 + x) ↔ 0x10000 ≤ r ∧ Scalar r := by
  unfold Row4 Scalar
  omega

theorem encodeRune_two {r : Nat} (h0 : 0x80 ≤ r) (h : r < 0x800) :
    encodeRune r = [UInt8.ofNat (0xC0 + r / 64), UInt8.ofNat (0x80 + r % 64)] := by
  rw [encodeRune, if_neg (by omega), if_pos h]

theorem encodeRune_three {r : Nat} (h0 : 0x800 ≤ r) (h : r < 0x10000) :
    encodeRune r =
      [UInt8.ofNat (0xE0 + r / 4096), UInt8.ofNat (0x80 + r / 64 % 64), UInt8.ofNat (0x80 + r % 64)] := by
  rw [encodeRune, if_neg (by omega), if_neg (by omega), if_pos h]

theorem encodeRune_four {r : Nat} (h0 : 0x10000 ≤ r) :
    encodeRune r = [UInt8.ofNat (0xF0 + r / 262144), UInt8.ofNat (0x80 + r / 4096 % 64),
      UInt8.ofNat (0x80 + r / 64 % 64), UInt8.ofNat (0x80 + r % 64)] := by
  rw [encodeRune, if_neg (by omega), if_neg (by omega), if_neg (by omega)]

/-- What a decoding step `d = (rune, size)` with `size ≥ 2` at the head of `b0 :: rest` is worth. -/
structure Multi (b0 : UInt8) (rest : Bytes) (d : Nat × Nat) : Prop where
  size : 2 ≤ d.2 ∧ d.2 ≤ 4
  len : d.2 ≤ (b0 :: rest).length
  enc : encodeRune d.1 = (b0 :: rest).take d.2
  ge : 0x80 ≤ d.1
  scalar : Scalar d.1
  again : ∀ X, decodeRune ((b0 :: rest).take d.2 ++ X) = d
  high : ∀ x ∈ (b0 :: rest).take d.2, 0x80 ≤ x

theorem Multi.take_eq {b0 : UInt8} {rest : Bytes} {d : Nat × Nat} (M : Multi b0 rest d) :
    (b0 :: rest).take d.2 = b0 :: rest.take (d.2 - 1) := by
  obtain ⟨n, hn⟩ := Nat.exists_eq_add_of_le' (Nat.le_of_succ_le M.size.1)
  rw [hn, List.take_succ_cons, Nat.add_sub_cancel]

theorem Multi.lead {b0 : UInt8} {rest : Bytes} {d : Nat × Nat} (M : Multi b0 rest d) : 0x80 ≤ b0 :=
  M.high b0 (M.take_eq ▸ List.mem_cons_self)

theorem multi2 {b0 b1 lo hi : UInt8} (hl : lead b0 = some (2, lo, hi)) (h1 : lo ≤ b1) (h2 : b1 ≤ hi)
    (t : Bytes) : Multi b0 (b1 :: t) (b0.toNat % 32 * 64 + b1.toNat % 64, 2) := by
  have R : Row2 b0.toNat b1.toNat b1.toNat := by
    have L := lead_some hl
    simp only [LeadRow, Row2, Row3, Row4, UInt8.le_iff_toNat_le] at L h1 h2 ⊢
    omega
  have g0 := ge80 (lead_ge hl)
  have e0 := low_eq (p := 0xC0) (m := 32) rfl (Nat.le_trans (by decide) R.1.1) (Nat.lt_succ_of_le R.1.2)
  have e1 := cont_eq R.2
  have P := (payload2 (mod64 _) rfl).mp (e0 ▸ e1 ▸ R)
  have G := (digits2 (x := b0.toNat % 32) (mod64 b1.toNat)).mp rfl
  refine ⟨by simp, by simp, ?_, P.1, P.2.2, fun X => ?_, ?_⟩
  · rw [encodeRune_two P.1 P.2.1, ← G.1, ← G.2, ofNat_eq e0, ofNat_eq e1]
    rfl
  · simp [decodeRune, g0.2, hl, h1, h2]
  · simp [g0.1, (ge80 R.2.1).1]

theorem multi3 {b0 b1 b2 lo hi : UInt8} (hl : lead b0 = some (3, lo, hi)) (h1 : lo ≤ b1) (h2 : b1 ≤ hi)
    (h3 : isCont b2 = true) (t : Bytes) :
    Multi b0 (b1 :: b2 :: t) (b0.toNat % 16 * 4096 + b1.toNat % 64 * 64 + b2.toNat % 64, 3) := by
  have R : Row3 b0.toNat b1.toNat b1.toNat := by
    have L := lead_some hl
    simp only [LeadRow, Row2, Row3, Row4, UInt8.le_iff_toNat_le] at L h1 h2 ⊢
    omega
  have r2 := isCont_iff.mp h3
  have g0 := ge80 (lead_ge hl)
  have e0 := low_eq (m := 16) rfl R.1.1 (Nat.lt_succ_of_le R.1.2)
  have e1 := cont_eq R.2.1
  have P := (payload3 (mod64 _) (mod64 b2.toNat) rfl).mp (e0 ▸ e1 ▸ R)
  have G := (digits3 (x := b0.toNat % 16) (mod64 b1.toNat) (mod64 b2.toNat)).mp rfl
  refine ⟨by simp, by simp, ?_, Nat.le_trans (by decide) P.1, P.2.2, fun X => ?_, ?_⟩
  · rw [encodeRune_three P.1 P.2.1, ← G.1, ← G.2.1, ← G.2.2, ofNat_eq e0, ofNat_eq e1, ofNat_eq (cont_eq r2)]
    rfl
  · simp [decodeRune, g0.2, hl, h1, h2, h3]
  · simp [g0.1, (ge80 R.2.1.1).1, (ge80 r2.1).1]

theorem multi4 {b0 b1 b2 b3 lo hi : UInt8} (hl : lead b0 = some (4, lo, hi)) (h1 : lo ≤ b1) (h2 : b1 ≤ hi)
    (h3 : isCont b2 = true) (h4 : isCont b3 = true) (t : Bytes) :
    Multi b0 (b1 :: b2 :: b3 :: t)
      (b0.toNat % 8 * 262144 + b1.toNat % 64 * 4096 + b2.toNat % 64 * 64 + b3.toNat % 64, 4) := by
  have R : Row4 b0.toNat b1.toNat b1.toNat := by
    have L := lead_some hl
    simp only [LeadRow, Row2, Row3, Row4, UInt8.le_iff_toNat_le] at L h1 h2 ⊢
    omega
  have r2 := isCont_iff.mp h3
  have r3 := isCont_iff.mp h4
  have g0 := ge80 (lead_ge hl)
  have e0 := low_eq (m := 8) rfl R.1.1 (Nat.lt_of_le_of_lt R.1.2 (by decide))
  have e1 := cont_eq R.2.1
  have P := (payload4 (mod64 _) (mod64 b2.toNat) (mod64 b3.toNat) rfl).mp (e0 ▸ e1 ▸ R)
  have G := (digits4 (w := b0.toNat % 8) (mod64 b1.toNat) (mod64 b2.toNat) (mod64 b3.toNat)).mp rfl
  refine ⟨by simp, by simp, ?_, Nat.le_trans (by decide) P.1, P.2, fun X => ?_, ?_⟩
  · rw [encodeRune_four P.1, ← G.1, ← G.2.1, ← G.2.2.1, ← G.2.2.2, ofNat_eq e0, ofNat_eq e1,
      ofNat_eq (cont_eq r2), ofNat_eq (cont_eq r3)]
    rfl
  · simp [decodeRune, g0.2, hl, h1, h2, h3, h4]
  · simp [g0.1, (ge80 R.2.1.1).1, (ge80 r2.1).1, (ge80 r3.1).1]

theorem decode_multi (b0 : UInt8) (rest : Bytes) (h : 2 ≤ (decodeRune (b0 :: rest)).2) :
    Multi b0 rest (decodeRune (b0 :: rest)) := by
  have hc := decodeRune_cases b0 rest
  generalize decodeRune (b0 :: rest) = d at hc h
  cases hc with
  | ascii _ | bad _ => simp at h
  | two hl hr h1 h2 => subst hr; exact multi2 hl h1 h2 _
  | three hl hr h1 h2 h3 => subst hr; exact multi3 hl h1 h2 h3 _
  | four hl hr h1 h2 h3 h4 => subst hr; exact multi4 hl h1 h2 h3 h4 _

theorem decodeRune_append (s t : Bytes) (h : 2 ≤ (decodeRune s).2) : decodeRune (s ++ t) = decodeRune s := by
  cases s with
  | nil => simp [decodeRune] at h
  | cons b rest =>
    have M := decode_multi b rest h
    have := M.again (rest.drop ((decodeRune (b :: rest)).2 - 1) ++ t)
    rwa [M.take_eq, List.cons_append, ← List.append_assoc, List.take_append_drop] at this

theorem decodeRune_valid_size (b : UInt8) (rest : Bytes) (hb : ¬ b < 0x80)
    (h : (decodeRune (b :: rest)).1 ≠ runeError) : 2 ≤ (decodeRune (b :: rest)).2 := by
  have hc := decodeRune_cases b rest
  generalize decodeRune (b :: rest) = d at hc h
  cases hc with
  | ascii hb' => exact absurd hb' hb
  | bad _ => exact absurd rfl h
  | two | three | four => simp

theorem decodeRune_cont (b : UInt8) (rest : Bytes) (h : 2 ≤ (decodeRune (b :: rest)).2) :
    ∀ x ∈ rest.take ((decodeRune (b :: rest)).2 - 1), 0x80 ≤ x := by
  have M := decode_multi b rest h
  exact fun x hx => M.high x (M.take_eq ▸ List.mem_cons_of_mem _ hx)

/-- a scalar value, encoded, decodes to itself whatever follows: the bytes `encodeRune` writes are a
    well-formed sequence (`digits2/3/4`, `payload2/3/4` read from right to left), worth `r` -/
theorem decode_encode (r : Nat) (hv : Scalar r) (X : Bytes) :
    decodeRune (encodeRune r ++ X) = (r, (encodeRune r).length) := by
  by_cases h1 : r < 0x80
  · have t0 := toNat_ofNat_le (Nat.le_of_lt h1) (by decide)
    simp [encodeRune, h1, decodeRune, UInt8.lt_iff_toNat_lt, t0]
  have h1 := Nat.le_of_not_lt h1
  by_cases h2 : r < 0x800
  · -- the digits of `r` are worth `r` (`hr`) and lie in a row of the table (`P`); the row bounds the bytes
    -- written, so they are their own values (`t0`, `t1`), and `multi2` decodes them to what the digits are worth
    have hr := (digits2 (r := r) (mod64 _)).mpr ⟨rfl, rfl⟩
    have P := (payload2 (mod64 _) hr).mpr ⟨h1, h2, hv⟩
    have m0 := add_low (p := 0xC0) (m := 32) rfl (Nat.lt_of_add_lt_add_left (Nat.lt_succ_of_le P.1.2))
    have t0 := toNat_ofNat_le P.1.2 (by decide)
    have t1 := toNat_cont P.2
    rw [← t0, ← t1] at P
    have M := (multi2 ((lead_of_range _).1 P.1) (UInt8.le_iff_toNat_le.mpr P.2.1)
      (UInt8.le_iff_toNat_le.mpr P.2.2) []).again X
    rw [t0, t1, m0, (cont_add (mod64 _)).2, hr] at M
    rw [encodeRune_two h1 h2]
    exact M
  have h2 := Nat.le_of_not_lt h2
  by_cases h3 : r < 0x10000
  · have hr := (digits3 (r := r) (mod64 _) (mod64 _)).mpr ⟨rfl, rfl, rfl⟩
    have P := (payload3 (mod64 _) (mod64 _) hr).mpr ⟨h2, h3, hv⟩
    have m0 := add_low (p := 0xE0) (m := 16) rfl (Nat.lt_of_add_lt_add_left (Nat.lt_succ_of_le P.1.2))
    have c2 := cont_add (mod64 r)
    have t0 := toNat_ofNat_le P.1.2 (by decide)
    have t1 := toNat_cont P.2.1
    have t2 := toNat_cont c2.1
    rw [← t0, ← t1] at P
    have M := (multi3 ((lead_of_range _).2.1 P.1) (ite_le P.2.2.1 P.2.1.1) (le_ite P.2.2.2 P.2.1.2)
      (isCont_iff.mpr (t2 ▸ c2.1)) []).again X
    rw [t0, t1, t2, m0, (cont_add (mod64 _)).2, c2.2, hr] at M
    rw [encodeRune_three h2 h3]
    exact M
  have h3 := Nat.le_of_not_lt h3
  have hr := (digits4 (r := r) (mod64 _) (mod64 _) (mod64 _)).mpr ⟨rfl, rfl, rfl, rfl⟩
  have P := (payload4 (mod64 _) (mod64 _) (mod64 _) hr).mpr ⟨h3, hv⟩
  have m0 := add_low (p := 0xF0) (m := 8) rfl (Nat.lt_of_add_lt_add_left (Nat.lt_of_le_of_lt P.1.2 (by decide)))
  have c2 := cont_add (mod64 (r / 64))
  have c3 := cont_add (mod64 r)
  have t0 := toNat_ofNat_le P.1.2 (by decide)
  have t1 := toNat_cont P.2.1
  have t2 := toNat_cont c2.1
  have t3 := toNat_cont c3.1
  rw [← t0, ← t1] at P
  have M := (multi4 ((lead_of_range _).2.2 P.1) (ite_le P.2.2.1 P.2.1.1) (le_ite P.2.2.2 P.2.1.2)
    (isCont_iff.mpr (t2 ▸ c2.1)) (isCont_iff.mpr (t3 ▸ c3.1)) []).again X
  rw [t0, t1, t2, t3, m0, (cont_add (mod64 _)).2, c2.2, c3.2, hr] at M
  rw [encodeRune_four h3]
  exact M

end Glb.Utf8
