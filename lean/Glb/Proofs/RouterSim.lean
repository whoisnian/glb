/-
  Helper lemmas for C04: the greedy walk of `findRoute` through a trie satisfying `TInv`
  simulates the candidate filtering of the route-list specification.

  Invariant of the simulation after the key path `ks` has been walked with captured values `V`:
  the current node is `descend t ks`, and the specification's candidate list is
  `candsAt S ks V` = the routes (in registration order) whose pattern keys have `ks` as a prefix,
  each with the rest of its pattern and its names zipped with `V`.
-/
import Glb.Proofs.RouterInv

namespace Glb.Router
open Glb.RouteList (Elem Route PName Cand pattern pnames stepLit stepParam stepStar)
open Glb.Generated (routeParam routeParamAny)

theorem drop_cases {α} (es : List α) (n : Nat) :
    (es[n]? = none ∧ es.drop n = []) ∨ (∃ x, es[n]? = some x ∧ es.drop n = x :: es.drop (n + 1) ∧ es.take (n + 1) = es.take n ++ [x]) := by
  by_cases h : n < es.length
  · refine Or.inr ⟨es[n], by simp [h], ?_, ?_⟩
    · exact List.drop_eq_getElem_cons h
    · rw [List.take_add_one]; simp [h]
  · refine Or.inl ⟨by simp; omega, ?_⟩
    apply List.drop_eq_nil_of_le; omega

theorem prefix_snoc_iff {α} [DecidableEq α] {ks keys : List α} (k : α) (h : ks <+: keys) :
    ks ++ [k] <+: keys ↔ keys[ks.length]? = some k := by
  obtain ⟨r, rfl⟩ := h
  cases r with
  | nil =>
    simp only [List.append_nil, List.getElem?_eq_none (Nat.le_refl _), reduceCtorEq, iff_false]
    intro h
    have := h.length_le
    simp at this
    omega
  | cons a r =>
    simp only [List.prefix_append_right_inj, List.cons_prefix_cons, List.nil_prefix, and_true]
    simp [eq_comm]

theorem pnames_append (a b : List Elem) : pnames (a ++ b) = pnames a ++ pnames b := by
  induction a with
  | nil => rfl
  | cons x r ih => cases x <;> simp [pnames, ih]

/-- number of captured values along a key path -/
def captures (ks : List Bytes) : Nat := ks.countP (fun k => k = routeParam ∨ k = routeParamAny)

theorem captures_snoc (ks : List Bytes) (k : Bytes) :
    captures (ks ++ [k]) = captures ks + (if k = routeParam ∨ k = routeParamAny then 1 else 0) := by
  simp [captures, List.countP_append, List.countP_cons]

theorem pnames_length {es : List Elem} (hg : GoodElems es) : (pnames es).length = captures (keysOf es) := by
  induction es with
  | nil => rfl
  | cons x r ih =>
    have hr : GoodElems r := fun s hs => hg s (List.mem_cons_of_mem _ hs)
    have := ih hr
    cases x with
    | lit s =>
      have hs := slashfree_ne_reserved (hg s (by simp)).2
      simp [pnames, keysOf_cons, elemKey, captures, hs.1, hs.2] at this ⊢
      exact this
    | param n => simp [pnames, keysOf_cons, elemKey, captures] at this ⊢; exact this
    | star => simp [pnames, keysOf_cons, elemKey, captures] at this ⊢; exact this

theorem keysOf_take (es : List Elem) (n : Nat) : keysOf (es.take n) = (keysOf es).take n := by
  simp [keysOf, List.map_take]

/-- `*` only as the last element -/
def StarLast (es : List Elem) : Prop := ∀ n r, es.drop n = Elem.star :: r → r = []

theorem cutStar_starLast (l : List Elem) : StarLast (RouteList.cutStar l) := by
  induction l with
  | nil => intro n r h; simp [RouteList.cutStar] at h
  | cons x l ih =>
    intro n r h
    cases n with
    | zero => cases x <;> simp [RouteList.cutStar] at h; exact h
    | succ n => cases x <;> simp [RouteList.cutStar] at h <;> exact ih n r h

theorem pattern_starLast (p : Bytes) : StarLast (pattern p) := cutStar_starLast _

/-- the route `(i, m, es)` seen as a candidate after the key path `ks` with captured values `V` -/
def candE (i : Nat) (m : Bytes) (es : List Elem) (ks V : List Bytes) : Option Cand :=
  if ks <+: keysOf es then some ⟨i, m, es.drop ks.length, (pnames (es.take ks.length)).zip V⟩ else none

theorem candE_none {i m es ks V} (h : ¬ ks <+: keysOf es) : candE i m es ks V = none := by simp [candE, h]

theorem take_length_of_prefix {es : List Elem} {ks : List Bytes} (hg : GoodElems es) (h : ks <+: keysOf es) :
    (pnames (es.take ks.length)).length = captures ks := by
  rw [pnames_length fun s hs => hg s (List.mem_of_mem_take hs), keysOf_take, ← List.prefix_iff_eq_take.mp h]

theorem keysOf_getElem? (es : List Elem) (n : Nat) : (keysOf es)[n]? = es[n]?.map elemKey := by
  simp [keysOf]

theorem candE_snoc {i m es ks} (k : Bytes) (V' : List Bytes) :
    candE i m es (ks ++ [k]) V' =
      if ks <+: keysOf es then
        match es.drop ks.length with
        | x :: r => if elemKey x = k then some ⟨i, m, r, (pnames (es.take ks.length ++ [x])).zip V'⟩ else none
        | [] => none
      else none := by
  by_cases hp : ks <+: keysOf es
  · have hiff := prefix_snoc_iff k hp
    rw [keysOf_getElem?] at hiff
    simp only [candE, hp, if_true, hiff, List.length_append, List.length_singleton]
    rcases drop_cases es ks.length with ⟨hn, hd⟩ | ⟨x, hx, hd, ht⟩
    · simp [hn, hd]
    · rw [hd]
      by_cases hk : elemKey x = k <;> simp [hx, hk, ht]
  · have : ¬ ks ++ [k] <+: keysOf es := fun h => hp ((List.prefix_append ks [k]).trans h)
    simp [candE, hp, this]

theorem mem_of_drop_eq_cons {α} {l r : List α} {n : Nat} {x : α} (h : l.drop n = x :: r) : x ∈ l :=
  List.mem_of_mem_drop (h ▸ List.mem_cons_self)

theorem stepLit_candE {i m es ks V} (seg : Bytes) (hseg : (47 : UInt8) ∉ seg) :
    (candE i m es ks V).bind (stepLit seg) = candE i m es (ks ++ [seg]) V := by
  have hsr := slashfree_ne_reserved hseg
  rw [candE_snoc, candE]
  by_cases hp : ks <+: keysOf es
  · simp only [hp, if_true, Option.bind_some, stepLit]
    cases hd : es.drop ks.length with
    | nil => rfl
    | cons x r =>
      cases x with
      | lit s => by_cases hs : s = seg <;> simp [elemKey, hs, pnames_append, pnames]
      | param n => simp [elemKey, show ¬ routeParam = seg from fun e => hsr.1 e.symm]
      | star => simp [elemKey, show ¬ routeParamAny = seg from fun e => hsr.2 e.symm]
  · simp [hp]

theorem stepParam_candE {i m es ks V} (seg : Bytes) (hg : GoodElems es) (hV : V.length = captures ks) :
    (candE i m es ks V).bind (stepParam seg) = candE i m es (ks ++ [routeParam]) (V ++ [seg]) := by
  rw [candE_snoc, candE]
  by_cases hp : ks <+: keysOf es
  · have hlen := take_length_of_prefix hg hp
    simp only [hp, if_true, Option.bind_some, stepParam]
    cases hd : es.drop ks.length with
    | nil => rfl
    | cons x r =>
      cases x with
      | lit s => simp [elemKey, (slashfree_ne_reserved (hg s (mem_of_drop_eq_cons hd)).2).1]
      | param n =>
        simp only [elemKey, if_true, pnames_append, pnames]
        rw [List.zip_append (by rw [hlen, hV])]
        simp
      | star => simp [elemKey, show ¬ routeParamAny = routeParam from fun e => Tie.Httpd.reserved_distinct e.symm]
  · simp [hp]

theorem stepStar_candE {i m es ks V} (rest : Bytes) (hg : GoodElems es) (hsl : StarLast es)
    (hV : V.length = captures ks) :
    (candE i m es ks V).bind (stepStar rest) = candE i m es (ks ++ [routeParamAny]) (V ++ [rest]) := by
  rw [candE_snoc, candE]
  by_cases hp : ks <+: keysOf es
  · have hlen := take_length_of_prefix hg hp
    simp only [hp, if_true, Option.bind_some, stepStar]
    cases hd : es.drop ks.length with
    | nil => rfl
    | cons x r =>
      cases x with
      | lit s => simp [elemKey, (slashfree_ne_reserved (hg s (mem_of_drop_eq_cons hd)).2).2]
      | param n => simp [elemKey, Tie.Httpd.reserved_distinct]
      | star =>
        simp only [elemKey, if_true, pnames_append, pnames, hsl _ _ hd]
        rw [List.zip_append (by rw [hlen, hV])]
        simp
  · simp [hp]

def candOf (ks V : List Bytes) (e : Entry) : Option Cand :=
  candE e.1 e.2.method (pattern e.2.pattern) ks V

def candsAt (S : List Entry) (ks V : List Bytes) : List Cand := S.filterMap (candOf ks V)

theorem candsAt_filterMap (S : List Entry) {ks V : List Bytes} {step : Cand → Option Cand} {k : Bytes} {V' : List Bytes}
    (h : ∀ e, (candOf ks V e).bind step = candOf (ks ++ [k]) V' e) :
    (candsAt S ks V).filterMap step = candsAt S (ks ++ [k]) V' := by
  unfold candsAt
  rw [List.filterMap_filterMap]
  exact congrArg (List.filterMap · S) (funext h)

theorem candsAt_eq_nil_iff (S : List Entry) (ks V : List Bytes) :
    candsAt S ks V = [] ↔ ¬ ∃ e ∈ S, ks <+: keysOf (pattern e.2.pattern) := by
  unfold candsAt
  rw [List.filterMap_eq_nil_iff]
  simp only [candOf, candE, not_exists, not_and]
  constructor
  · intro h e he hp; have := h e he; simp [hp] at this
  · intro h e he; simp [h e he]

theorem TInv.child_iff {S t} (h : TInv S [] t) {ks : List Bytes} {node : Node} (hd : descend t ks = some node)
    (k : Bytes) (hk : ∀ m, (methodTag? m).isSome → k ≠ tagOf m) :
    (node.child k).isSome ↔ ∃ e ∈ S, ks ++ [k] <+: keysOf (pattern e.2.pattern) := by
  rw [child_eq_descend hd, h.ex]
  constructor
  · rintro (h0 | ⟨e, he, hp⟩ | ⟨p, hp, _⟩)
    · simp at h0
    · exact ⟨e, he, (prefix_snoc_of_ne (hk _ (h.known e he))).mp hp⟩
    · simp at hp
  · rintro ⟨e, he, hp⟩
    exact Or.inr (Or.inl ⟨e, he, hp.trans (List.prefix_append _ _)⟩)

theorem slashfree_ne_tag {seg : Bytes} (hseg : (47 : UInt8) ∉ seg) (m : Bytes) (hm : (methodTag? m).isSome) :
    seg ≠ tagOf m := by
  obtain ⟨k, h⟩ := Option.isSome_iff_exists.mp hm
  rw [tagOf_of_some h]
  exact fun e => slashfree_not_tag hseg (e ▸ h)

theorem pathKey_ne_tag {k : Bytes} (hk : PathKey k) (m : Bytes) : k ≠ tagOf m := by
  intro e; subst e; exact tagOf_not_pathKey m hk

/-- one step of the walk, trie side and specification side together: there is a child for the key `k`
    exactly when some candidate continues with `k` -/
theorem TInv.child_cases {S t} (h : TInv S [] t) {ks : List Bytes} {node : Node} (hd : descend t ks = some node)
    (k : Bytes) (hk : ∀ m, (methodTag? m).isSome → k ≠ tagOf m) (V' : List Bytes) :
    (node.child k = none ∧ candsAt S (ks ++ [k]) V' = []) ∨
    (∃ res, node.child k = some res ∧ descend t (ks ++ [k]) = some res ∧ candsAt S (ks ++ [k]) V' ≠ []) := by
  have hiff := h.child_iff hd k hk
  cases hc : node.child k with
  | none => exact Or.inl ⟨rfl, by rw [candsAt_eq_nil_iff, ← hiff, hc]; simp⟩
  | some res =>
    exact Or.inr ⟨res, rfl, by rw [← child_eq_descend hd, hc], by rw [ne_eq, candsAt_eq_nil_iff, ← hiff, hc]; simp⟩

/-- the walk of `findRoute` through the trie follows the candidate filtering of the specification -/
theorem walk_sim {S t} (h : TInv S [] t) (segs : List (Bytes × Bytes)) :
    ∀ (ks : List Bytes) (node : Node) (V : List Bytes), descend t ks = some node → V.length = captures ks →
      (∀ sg ∈ segs, (47 : UInt8) ∉ sg.1) →
      match walkT node segs V with
      | (some n', V') => ∃ ks', descend t ks' = some n' ∧
          RouteList.walk (candsAt S ks V) segs = candsAt S ks' V' ∧ V'.length = captures ks'
      | (none, _) => RouteList.walk (candsAt S ks V) segs = [] := by
  induction segs with
  | nil => intro ks node V hd hV _; exact ⟨ks, hd, rfl, hV⟩
  | cons sg more ih =>
    intro ks node V hd hV hsf
    obtain ⟨seg, rest⟩ := sg
    have hseg : (47 : UInt8) ∉ seg := hsf (seg, rest) (by simp)
    have hsf' : ∀ sg ∈ more, (47 : UInt8) ∉ sg.1 := fun sg hs => hsf sg (by simp [hs])
    have hsr := slashfree_ne_reserved hseg
    have hV1 : V.length = captures (ks ++ [seg]) := by rw [captures_snoc]; simp [hsr.1, hsr.2, hV]
    have hV2 : (V ++ [seg]).length = captures (ks ++ [routeParam]) := by rw [captures_snoc]; simp [hV]
    have hV3 : (V ++ [rest]).length = captures (ks ++ [routeParamAny]) := by rw [captures_snoc]; simp [hV]
    simp only [RouteList.walk, walkT, candsAt_filterMap S fun _ => stepLit_candE seg hseg,
      candsAt_filterMap S fun _ => stepParam_candE seg (pattern_good _) hV,
      candsAt_filterMap S fun _ => stepStar_candE rest (pattern_good _) (pattern_starLast _) hV]
    rcases h.child_cases hd seg (slashfree_ne_tag hseg) V with ⟨hc, hn⟩ | ⟨res, hc, hd', hn⟩
    · simp only [hc, hn, ne_eq, not_true_eq_false, if_false]
      rcases h.child_cases hd routeParam (fun m _ => pathKey_ne_tag pathKey_routeParam m) (V ++ [seg]) with
        ⟨hc2, hn2⟩ | ⟨res, hc2, hd', hn2⟩
      · simp only [hc2, hn2, not_true_eq_false, if_false]
        rcases h.child_cases hd routeParamAny (fun m _ => pathKey_ne_tag pathKey_routeParamAny m) (V ++ [rest]) with
          ⟨hc3, hn3⟩ | ⟨res, hc3, hd', _⟩
        · simp only [hc3]; exact hn3
        · simp only [hc3]; exact ⟨_, hd', rfl, hV3⟩
      · simp only [hc2, hn2, not_false_eq_true, if_true]
        exact ih _ res _ hd' hV2 hsf'
    · simp only [hc, hn, ne_eq, not_false_eq_true, if_true]
      exact ih _ res V hd' hV1 hsf'

/-- the first registered route with exactly the key path `ks` and the method `m` -/
def sel (S : List Entry) (ks : List Bytes) (m : Bytes) : Option Entry :=
  S.find? (fun e => keysOf (pattern e.2.pattern) = ks ∧ e.2.method = m)

theorem fullKeys_eq_iff {e : Entry} (he : (methodTag? e.2.method).isSome) (ks : List Bytes) (m : Bytes) :
    fullKeys e.2 = ks ++ [tagOf m] ↔ keysOf (pattern e.2.pattern) = ks ∧ e.2.method = m := by
  unfold fullKeys
  constructor
  · intro h
    have := List.append_inj' h rfl
    simp only [List.cons.injEq, and_true] at this
    exact ⟨this.1, tagOf_inj he this.2⟩
  · rintro ⟨rfl, rfl⟩; rfl

theorem find?_congr' {α} {p q : α → Bool} {l : List α} (h : ∀ x ∈ l, p x = q x) : l.find? p = l.find? q := by
  induction l with
  | nil => rfl
  | cons a l ih =>
    have ha := h a (by simp)
    have := ih (fun x hx => h x (by simp [hx]))
    simp [List.find?_cons, ha, this]

theorem TInv.lookupPay_tag {S P t} (h : TInv S P t) (ks : List Bytes) (m : Bytes) :
    lookupPay S (ks ++ [tagOf m]) = match sel S ks m with
      | some e => payOf e
      | none => (none, []) := by
  unfold lookupPay sel
  have : S.find? (fun e => decide (fullKeys e.2 = ks ++ [tagOf m])) =
      S.find? (fun e => decide (keysOf (pattern e.2.pattern) = ks ∧ e.2.method = m)) := by
    apply find?_congr'
    intro e he
    simp only [decide_eq_decide]
    exact fullKeys_eq_iff (h.known e he) ks m
  simp only [this]
  rfl

theorem TInv.child_tag {S P t} (h : TInv S P t) {ks : List Bytes} {n : Node} (hd : descend t ks = some n) (m : Bytes) :
    match sel S ks m with
    | some e => ∃ nn, n.child (tagOf m) = some nn ∧ Router.pay nn = payOf e
    | none => n.child (tagOf m) = none := by
  have hex : (n.child (tagOf m)).isSome ↔ (sel S ks m).isSome := by
    rw [child_eq_descend hd, h.tag_iff, sel, List.find?_isSome]
    exact exists_congr fun e => and_congr_right fun he => by
      rw [decide_eq_true_eq, fullKeys_eq_iff (h.known e he)]
  have hpay := h.lookupPay_tag ks m
  cases hs : sel S ks m with
  | some e =>
    rw [hs] at hex hpay
    obtain ⟨nn, hc⟩ := Option.isSome_iff_exists.mp (hex.mpr rfl)
    exact ⟨nn, hc, by rw [h.pay _ nn (by rw [← child_eq_descend hd, hc]), hpay]⟩
  | none =>
    rw [hs] at hex
    exact Option.not_isSome_iff_eq_none.mp fun hc => Bool.false_ne_true (hex.mp hc)

theorem find_filter_filterMap {α β} (f : α → Option β) (p q : β → Bool) (l : List α) :
    ((l.filterMap f).filter p).find? q = (l.find? (fun a => (f a).any (fun c => p c && q c))).bind f := by
  induction l with
  | nil => rfl
  | cons a l ih =>
    cases hf : f a with
    | none => simp [hf, ih]
    | some c =>
      by_cases hp : p c <;> by_cases hq : q c <;> simp [hf, hp, hq, ih]

theorem candOf_exhausted (ks V : List Bytes) (m : Bytes) (e : Entry) :
    ((candOf ks V e).any (fun c => decide (c.rest = []) && decide (c.method = m))) =
      decide (keysOf (pattern e.2.pattern) = ks ∧ e.2.method = m) := by
  unfold candOf candE
  by_cases hp : ks <+: keysOf (pattern e.2.pattern)
  · simp only [hp, if_true, Option.any_some]
    rw [Bool.eq_iff_iff]
    simp only [Bool.and_eq_true, decide_eq_true_eq]
    constructor
    · rintro ⟨hl, hm⟩
      refine ⟨(hp.eq_of_length ?_).symm, hm⟩
      have h1 := hp.length_le
      have h2 := List.drop_eq_nil_iff.mp hl
      simp only [keysOf, List.length_map] at h1 ⊢
      omega
    · rintro ⟨hk, hm⟩
      exact ⟨by rw [← hk]; simp [keysOf], hm⟩
  · have : ¬ keysOf (pattern e.2.pattern) = ks := fun e' => hp (e' ▸ List.prefix_refl _)
    simp [hp, this]

/-- the route `e` as a candidate whose pattern is used up, its names bound to the values `V` -/
def doneCand (V : List Bytes) (e : Entry) : Cand := ⟨e.1, e.2.method, [], (pnames (pattern e.2.pattern)).zip V⟩

theorem candOf_of_keys {ks V : List Bytes} {e : Entry} (hk : keysOf (pattern e.2.pattern) = ks) :
    candOf ks V e = some (doneCand V e) := by
  unfold candOf candE doneCand
  have hl : ks.length = (pattern e.2.pattern).length := by rw [← hk]; simp [keysOf]
  simp [hk, hl]

theorem spec_pick_exact (S : List Entry) (ks V : List Bytes) (m : Bytes) :
    ((candsAt S ks V).filter (fun c => c.rest = [])).find? (fun c => c.method = m) =
      (sel S ks m).map (doneCand V) := by
  unfold candsAt
  rw [find_filter_filterMap]
  have : (fun a => (candOf ks V a).any (fun c => decide (c.rest = []) && decide (c.method = m))) =
      (fun e : Entry => decide (keysOf (pattern e.2.pattern) = ks ∧ e.2.method = m)) := by
    funext e; exact candOf_exhausted ks V m e
  rw [this]
  unfold sel
  cases hf : S.find? (fun e => decide (keysOf (pattern e.2.pattern) = ks ∧ e.2.method = m)) with
  | none => rfl
  | some e =>
    have hp := List.find?_some hf
    simp only [decide_eq_true_eq] at hp
    simp [candOf_of_keys hp.1]

/-- the route chosen at the key path `ks`: the first with the method `m`, else the first with the method `*` -/
def selAny (S : List Entry) (ks : List Bytes) (m : Bytes) : Option Entry :=
  match sel S ks m with
  | some e => some e
  | none => sel S ks RouteList.methodAll

theorem selAny_some {S : List Entry} {ks V : List Bytes} {m : Bytes} {e : Entry} (hV : V.length = captures ks)
    (h : selAny S ks m = some e) :
    e ∈ S ∧ (e.2.method = m ∨ e.2.method = RouteList.methodAll) ∧ (pnames (pattern e.2.pattern)).length = V.length := by
  have key : ∀ m', sel S ks m' = some e → e ∈ S ∧ e.2.method = m' ∧ (pnames (pattern e.2.pattern)).length = V.length := by
    intro m' hs
    have hk := List.find?_some hs
    rw [decide_eq_true_eq] at hk
    exact ⟨List.mem_of_find?_eq_some hs, hk.2, by rw [pnames_length (pattern_good _), hk.1, hV]⟩
  unfold selAny at h
  cases hs : sel S ks m with
  | some e' => rw [hs] at h; cases h; exact (key m hs).imp id (And.imp Or.inl id)
  | none => rw [hs] at h; exact (key _ h).imp id (And.imp Or.inr id)

theorem pickMethod_candsAt_eq (S : List Entry) (ks V : List Bytes) (m : Bytes) :
    RouteList.pickMethod (candsAt S ks V) m =
      (selAny S ks m).map (doneCand V) := by
  unfold RouteList.pickMethod selAny
  simp only [spec_pick_exact]
  cases sel S ks m <;> rfl

/-- `methodNodeOrNil` at the node reached by `ks` finds the node of the chosen route -/
theorem TInv.methodNode_sel {S P t} (h : TInv S P t) {ks : List Bytes} {n : Node} (hd : descend t ks = some n) (m : Bytes) :
    match selAny S ks m with
    | some e => ∃ nn, methodNodeOrNil n m = some nn ∧ Router.pay nn = payOf e
    | none => methodNodeOrNil n m = none := by
  have h1 := h.child_tag hd m
  have h2 := h.child_tag hd Generated.methodAll
  rw [Tie.Httpd.methodAll_star] at h2
  unfold selAny methodNodeOrNil
  rw [Tie.Httpd.methodAll_star]
  cases hs : sel S ks m with
  | some e =>
    rw [hs] at h1
    obtain ⟨nn, hc, hp⟩ := h1
    exact ⟨nn, by rw [hc], hp⟩
  | none =>
    rw [hs] at h1
    simp only [h1]
    exact h2

/-- The walk from the root over `segs` and the method choice, code and specification together: both end at the
    same registered route `o` (or none), with the values `V` captured on the way. -/
theorem walk_spec {S t} (h : TInv S [] t) (segs : List (Bytes × Bytes)) (hsf : ∀ sg ∈ segs, (47 : UInt8) ∉ sg.1)
    (m : Bytes) :
    ∃ (o : Option Entry) (V : List Bytes),
      (∀ e, o = some e → e ∈ S ∧ (e.2.method = m ∨ e.2.method = RouteList.methodAll) ∧
        (pnames (pattern e.2.pattern)).length = V.length) ∧
      RouteList.pickMethod (RouteList.walk (candsAt S [] []) segs) m = o.map (doneCand V) ∧
      finishWalk {} m (walkT t segs []) = match o with
        | some e => (some e.1, ⟨namesOf (pattern e.2.pattern), V⟩)
        | none => (none, ⟨[], V⟩) := by
  have hw := walk_sim h segs [] t [] rfl rfl hsf
  cases hwt : walkT t segs [] with
  | mk on V =>
    rw [hwt] at hw
    cases on with
    | none => exact ⟨none, V, nofun, by rw [hw]; rfl, rfl⟩
    | some n' =>
      obtain ⟨ks', hd', hwalk, hV'⟩ := hw
      have hn := h.methodNode_sel hd' m
      refine ⟨selAny S ks' m, V, fun e => selAny_some hV', by rw [hwalk, pickMethod_candsAt_eq], ?_⟩
      cases hs : selAny S ks' m with
      | none => rw [hs] at hn; simp only [finishWalk, hn]
      | some e =>
        rw [hs] at hn
        obtain ⟨nn, hc, hp⟩ := hn
        simp only [Router.pay, payOf, Prod.mk.injEq] at hp
        simp only [finishWalk, hc, hp.1, hp.2]

end Glb.Router
