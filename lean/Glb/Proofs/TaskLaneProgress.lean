/-
  Progress and termination of the TaskLane model for `cfg L Q` (C06 liveness, C07, C08), by cases
  on the edges `XStep` of `Glb.Proofs.TaskLaneSteps`:

  * `WF`, the structural invariant: pcs inside the programs, `parked` only at blocking selects and
    at the worker's `run`, nobody exits while the context is live;
  * enabledness (`unparked_q/_w/_p`, `done_edge_enabled`, `hand_enabled`), and from it the shape of
    quiescent states (`quiescent_q`, `quiescent_w`, `quiescent_idle`);
  * `allExited_steps` (nothing after Wait);
  * `PAC` (a PushTask begun after cancel), preserved along what the producers see of a step
    (`PEff` of `Glb.Proofs.TaskLaneSafety`);
  * the termination measure `mu` (DESIGN A.2): `mu_xstep` (every internal step decreases it), runs
    of internal steps `IRun`, `exists_quiescent`, `no_infinite_internal`.
  `Steps` and `allExited` (used by the C07 statements) are defined here.
-/
import Glb.Proofs.TaskLaneSafety
import Glb.Proofs.TaskLaneSteps

namespace Glb.TaskLane

inductive Steps (c : Cfg) : St → St → Prop where
  | refl (s) : Steps c s s
  | tail (s l s' s'') : Steps c s s' → Step c s' l s'' → Steps c s s''

def allExited (L : Nat) (s : St) : Prop := ∀ i, i < L → (s.qs i).pc = 6 ∧ (s.ws i).pc = 4

variable {L Q : Nat}

/- Local state of a queue goroutine: pc inside the program, parked only at the blocking selects,
   exited only if the context (`c`) is cancelled.  Likewise `okW` (a worker is also "parked"
   while it runs a task at pc 3) and `okP` (a producer may return at any time). -/
abbrev okQ (c : Bool) (x : G) : Prop :=
  x.pc ≤ 6 ∧ (x.parked = true → x.pc = 0 ∨ x.pc = 4) ∧ (x.pc = 6 → c = true)
abbrev okW (c : Bool) (x : G) : Prop :=
  x.pc ≤ 4 ∧ (x.parked = true → x.pc = 2 ∨ x.pc = 3) ∧ (x.pc = 4 → c = true)
abbrev okP (x : G) : Prop := x.pc ≤ 5 ∧ (x.parked = true → x.pc = 1)

def ok (c : Bool) : Gid → G → Prop
  | .q _ => okQ c
  | .w _ => okW c
  | .p _ => okP

structure WF (s : St) : Prop where
  q : ∀ i, okQ s.cancelled (s.qs i)
  w : ∀ i, okW s.cancelled (s.ws i)
  p : ∀ k, okP (s.ps k)

theorem WF.get {s : St} (h : WF s) (g : Gid) : ok s.cancelled g (s.get g) := by
  cases g with
  | q i => exact h.q i
  | w i => exact h.w i
  | p k => exact h.p k

theorem WF.set {s : St} {g : Gid} {x : G} (h : WF s) (hx : ok s.cancelled g x) : WF (s.set g x) := by
  cases g with
  | q i => exact ⟨forall_upd h.q _ hx, h.w, h.p⟩
  | w i => exact ⟨h.q, forall_upd h.w _ hx, h.p⟩
  | p k => exact ⟨h.q, h.w, forall_upd h.p _ hx⟩

/- An unparked local state at a pc `b` before the exit is fine. -/

theorem okQ_at {c : Bool} {y : G} (b : Nat) (hb : b < 6 := by decide) (hpc : y.pc = b := by rfl)
    (hu : y.parked = false := by rfl) : okQ c y :=
  ⟨by omega, fun h => absurd (hu.symm.trans h) Bool.false_ne_true, fun h => by omega⟩

theorem okW_at {c : Bool} {y : G} (b : Nat) (hb : b < 4 := by decide) (hpc : y.pc = b := by rfl)
    (hu : y.parked = false := by rfl) : okW c y :=
  ⟨by omega, fun h => absurd (hu.symm.trans h) Bool.false_ne_true, fun h => by omega⟩

theorem okP_at {y : G} (b : Nat) (hb : b ≤ 5 := by decide) (hpc : y.pc = b := by rfl)
    (hu : y.parked = false := by rfl) : okP y :=
  ⟨by omega, fun h => absurd (hu.symm.trans h) Bool.false_ne_true⟩

theorem ok_done {g : Gid} {a b : Nat} (x : G) (he : doneEdge g a b) : ok true g (goto x b) := by
  cases g <;> obtain ⟨-, rfl⟩ := he
  · exact ⟨Nat.le_refl _, nofun, fun _ => rfl⟩
  · exact ⟨Nat.le_refl _, nofun, fun _ => rfl⟩
  · exact okP_at 2

theorem ok_dflt {c : Bool} {g : Gid} {a b : Nat} (x : G) (he : dfltEdge g a b) :
    ok c g (goto x b) := by
  cases g <;> obtain ⟨-, rfl⟩ := he
  · exact okQ_at 3
  · exact okW_at 1
  · exact okP_at 1

theorem ok_park {c : Bool} {g : Gid} {x : G} (h : ok c g x) (he : parkPc g x.pc) :
    ok c g { x with parked := true } := by
  cases g with
  | q i => exact ⟨h.1, fun _ => he, h.2.2⟩
  | w i => exact ⟨h.1, fun _ => .inl he, h.2.2⟩
  | p k => exact ⟨h.1, fun _ => he⟩

theorem WF.init : WF init := ⟨fun _ => okQ_at 0, fun _ => okW_at 0, fun _ => okP_at 0⟩

theorem WF.xstep {s : St} {l : Label} {s' : St} (h : WF s) (hx : XStep L Q s l s') : WF s' := by
  obtain ⟨hq, hw, hp⟩ := h
  cases hx with
  | cancel =>
    exact ⟨fun i => ⟨(hq i).1, (hq i).2.1, fun _ => rfl⟩,
      fun i => ⟨(hw i).1, (hw i).2.1, fun _ => rfl⟩, hp⟩
  | push t lane hl hf => exact ⟨hq, hw, forall_upd hp _ (okP_at 0)⟩
  | done g a b hl hc hpc he => exact WF.set ⟨hq, hw, hp⟩ (by rw [hc]; exact ok_done _ he)
  | dfltDone g a b hl hu hc hpc he => exact WF.set ⟨hq, hw, hp⟩ (ok_dflt _ he)
  | park g a hl hu hpc he => exact WF.set ⟨hq, hw, hp⟩ (ok_park (WF.get ⟨hq, hw, hp⟩ g) (hpc ▸ he))
  | qTake i hl hpc hb => exact ⟨forall_upd hq _ (okQ_at 1), hw, hp⟩
  | pSend k hk hpc hb => exact ⟨hq, hw, forall_upd hp _ (okP_at 3)⟩
  | pTimeout k hk hpc => exact ⟨hq, hw, forall_upd hp _ (okP_at 4)⟩
  | hand i j a b hi hj ha ha' hb hb' => exact ⟨forall_upd hq _ (okQ_at 5), forall_upd hw _ (okW_at 3), hp⟩
  | pHand k i hk hi hQ hpc hqc => exact ⟨forall_upd hq _ (okQ_at 1), hw, forall_upd hp _ (okP_at 3)⟩
  | dfltQ i hi hu hpc => exact ⟨forall_upd hq _ (okQ_at 4), hw, hp⟩
  | dfltW i hi hu hpc => exact ⟨hq, forall_upd hw _ (okW_at 2), hp⟩
  | incCnt i hi hpc => exact ⟨forall_upd hq _ (okQ_at 2), hw, hp⟩
  | decCnt i hi hpc => exact ⟨forall_upd hq _ (okQ_at 0), hw, hp⟩
  | start i hi hu hpc => exact ⟨hq, forall_upd hw _ ⟨(hw i).1, fun _ => .inr hpc, (hw i).2.2⟩, hp⟩
  | finish i v hi hu hpc => exact ⟨hq, forall_upd hw _ (okW_at 0), hp⟩
  | pushRet k a r hk hpc hr => exact ⟨hq, hw, forall_upd hp _ (okP_at 5)⟩

theorem Reachable.inv {s : St} (h : Reachable (cfg L Q) s) : WF s := by
  induction h with
  | init => exact WF.init
  | step s l s' _ hs ih => exact ih.xstep hs.toX


theorem ready_enabled {c : Cfg} {s : St} {g : Gid} {cases : List (Case × Nat)} {dflt : Option Nat}
    {k : Case} {t : Nat} (hl : s.live c g) (hi : instrAt c s g = some (.select cases dflt))
    (hm : (k, t) ∈ cases) (hr : ready c s g k) : ∃ s', Step c s .tau s' := by
  rcases hr with ⟨hne, hlr⟩ | hpr
  · have := Step.takeLocal s g cases dflt k t hl hi hm hlr
    rw [if_neg hne] at this
    exact ⟨_, this⟩
  · cases k with
    | recv x =>
      obtain ⟨hq, h, th, hne, hpo⟩ := hpr
      exact ⟨_, Step.takeover s g h cases dflt x t th hl hi hm hq hne hpo⟩
    | send x =>
      obtain ⟨hq, h, th, hne, hpo⟩ := hpr
      exact ⟨_, Step.handover s g h cases dflt x t th hl hi hm hq hne hpo⟩
    | done => exact hpr.elim
    | timeout => exact hpr.elim

/-- an unparked goroutine at a select always has an enabled `tau` step: a ready case, else
    `default`, else parking -/
theorem select_unparked_enabled {c : Cfg} {s : St} {g : Gid} {cases : List (Case × Nat)}
    {dflt : Option Nat} (hl : s.live c g) (hu : (s.get g).parked = false)
    (hi : instrAt c s g = some (.select cases dflt)) : ∃ s', Step c s .tau s' := by
  by_cases h : ∃ k t, (k, t) ∈ cases ∧ ready c s g k
  · obtain ⟨k, t, hm, hr⟩ := h
    exact ready_enabled hl hi hm hr
  · have hn : ∀ k t, (k, t) ∈ cases → ¬ ready c s g k := fun k t hm hr => h ⟨k, t, hm, hr⟩
    cases dflt with
    | none => exact ⟨_, Step.park s g cases hl hu hi hn⟩
    | some d => exact ⟨_, Step.dflt s g cases d hl hu hi hn⟩

/-- after cancellation every select containing `<-ctx.Done()` has an enabled `tau` step -/
theorem done_enabled {c : Cfg} {s : St} {g : Gid} {cases : List (Case × Nat)} {dflt : Option Nat}
    {t : Nat} (hl : s.live c g) (hi : instrAt c s g = some (.select cases dflt))
    (hm : (Case.done, t) ∈ cases) (hc : s.cancelled = true) : ∃ s', Step c s .tau s' :=
  ready_enabled hl hi hm (Or.inl ⟨by simp, hc⟩)

theorem done_edge_enabled {s : St} {g : Gid} {b : Nat} (hl : s.live (cfg L Q) g)
    (hc : s.cancelled = true) (he : doneEdge g (s.get g).pc b) : ∃ s', Step (cfg L Q) s .tau s' := by
  cases g with
  | q i => rcases he.1 with h | h | h <;> exact done_enabled hl (q_at h) (.head _) hc
  | w i => rcases he.1 with h | h <;> exact done_enabled hl (w_at h) (.head _) hc
  | p k => rcases he.1 with h | h <;> exact done_enabled hl (p_at h) (.head _) hc

/-- a queue goroutine at q4 (parked or not) can hand over to any worker `j` parked at w2, its own
    or another lane's: the universal queue serves both, so the lane's own channel is not needed -/
theorem hand_enabled {s : St} {i j : Nat} (hi : i < L) (hj : j < L) (hq : (s.qs i).pc = 4)
    (hw : (s.ws j).pc = 2) (hp : (s.ws j).parked = true) : ∃ s', Step (cfg L Q) s .tau s' :=
  ⟨_, Step.handover s (.q i) (.w j) _ _ .uni 5 3 hi (q_at hq) (.tail _ (.tail _ (.head _)))
    nofun nofun ⟨hj, hp, _, w_at hw, .tail _ (.tail _ (.head _)), rfl⟩⟩

theorem internal_of_tau {c : Cfg} {s : St} :
    (∃ s', Step c s .tau s') → ∃ l s', Step c s l s' ∧ internal l = true
  | ⟨s', h⟩ => ⟨_, s', h, rfl⟩

theorem Quiescent.elim {c : Cfg} {s : St} {P : Prop} (hq : Quiescent c s)
    (h : ∃ l s', Step c s l s' ∧ internal l = true) : P := by
  obtain ⟨l, s', hs, hi⟩ := h
  rw [hq l s' hs] at hi
  cases hi

/- An unparked goroutine that has not exited has an enabled internal step of its own: at a select
   by `select_unparked_enabled`, at an action the action. -/

theorem unparked_q {s : St} {i : Nat} (hi : i < L) (hu : (s.qs i).parked = false)
    (hlt : (s.qs i).pc < 6) : ∃ l s', Step (cfg L Q) s l s' ∧ internal l = true := by
  have hl : s.live (cfg L Q) (.q i) := hi
  have sel {cs d} (h : instrAt (cfg L Q) s (.q i) = some (.select cs d)) :=
    internal_of_tau (select_unparked_enabled hl hu h)
  have : (s.qs i).pc = 0 ∨ (s.qs i).pc = 2 ∨ (s.qs i).pc = 3 ∨ (s.qs i).pc = 4 ∨
      (s.qs i).pc = 1 ∨ (s.qs i).pc = 5 := by omega
  rcases this with h | h | h | h | h | h
  · exact sel (q_at h)
  · exact sel (q_at h)
  · exact sel (q_at h)
  · exact sel (q_at h)
  · exact ⟨_, _, Step.incCnt s (.q i) 2 hl (q_at h), rfl⟩
  · exact ⟨_, _, Step.decCnt s (.q i) 0 hl (q_at h), rfl⟩

theorem unparked_w {s : St} {i : Nat} (hi : i < L) (hu : (s.ws i).parked = false)
    (hlt : (s.ws i).pc < 4) : ∃ l s', Step (cfg L Q) s l s' ∧ internal l = true := by
  have hl : s.live (cfg L Q) (.w i) := hi
  have sel {cs d} (h : instrAt (cfg L Q) s (.w i) = some (.select cs d)) :=
    internal_of_tau (select_unparked_enabled hl hu h)
  have : (s.ws i).pc = 0 ∨ (s.ws i).pc = 1 ∨ (s.ws i).pc = 2 ∨ (s.ws i).pc = 3 := by omega
  rcases this with h | h | h | h
  · exact sel (w_at h)
  · exact sel (w_at h)
  · exact sel (w_at h)
  · exact ⟨_, _, Step.start s i 0 hi hu (w_at h), rfl⟩

theorem unparked_p {s : St} {k : Nat} (hk : k < s.np) (hu : (s.ps k).parked = false)
    (hlt : (s.ps k).pc < 5) : ∃ l s', Step (cfg L Q) s l s' ∧ internal l = true := by
  have hl : s.live (cfg L Q) (.p k) := hk
  have sel {cs d} (h : instrAt (cfg L Q) s (.p k) = some (.select cs d)) :=
    internal_of_tau (select_unparked_enabled hl hu h)
  have : (s.ps k).pc = 0 ∨ (s.ps k).pc = 1 ∨ (s.ps k).pc = 2 ∨ (s.ps k).pc = 3 ∨
      (s.ps k).pc = 4 := by omega
  rcases this with h | h | h | h | h
  · exact sel (p_at h)
  · exact sel (p_at h)
  · exact ⟨_, _, Step.pushRet s k .retCtxErr 5 .ctxErr hk (p_at h) (.inr (.inl ⟨rfl, rfl⟩)), rfl⟩
  · exact ⟨_, _, Step.pushRet s k .retNil 5 .nil hk (p_at h) (.inl ⟨rfl, rfl⟩), rfl⟩
  · exact ⟨_, _, Step.pushRet s k .retTimeout 5 .timeout hk (p_at h)
      (.inr (.inr ⟨rfl, rfl⟩)), rfl⟩

/-- what a quiescent state looks like, queue goroutine by queue goroutine (`quiescent_w`: worker by
    worker) -/
theorem quiescent_q {s : St} (hq : Quiescent (cfg L Q) s) (hw : WF s) {i : Nat} (hi : i < L) :
    ((s.qs i).pc = 0 ∧ (s.qs i).parked = true ∧ s.buf i = [] ∧ s.cancelled = false) ∨
    ((s.qs i).pc = 4 ∧ (s.qs i).parked = true ∧ s.cancelled = false) ∨ (s.qs i).pc = 6 := by
  obtain ⟨hle, hpk, -⟩ := hw.q i
  have hl : s.live (cfg L Q) (.q i) := hi
  by_cases h6 : (s.qs i).pc = 6
  · exact .inr (.inr h6)
  have hp : (s.qs i).parked = true :=
    Bool.of_not_eq_false fun hu => hq.elim (unparked_q hi hu (by omega))
  have hc : s.cancelled = false := Bool.of_not_eq_true fun hc =>
    hq.elim (internal_of_tau (done_edge_enabled hl hc (b := 6) ⟨(hpk hp).imp_right .inr, rfl⟩))
  rcases hpk hp with h | h
  · refine .inl ⟨h, hp, ?_, hc⟩
    cases hb : s.buf i with
    | nil => rfl
    | cons a as =>
      exact hq.elim (internal_of_tau (ready_enabled hl (q_at h) (k := .recv .buf) (t := 1) (.tail _ (.head _))
        (.inl ⟨nofun, show s.buf i ≠ [] from hb ▸ List.cons_ne_nil a as⟩)))
  · exact .inr (.inl ⟨h, hp, hc⟩)

theorem quiescent_w {s : St} (hq : Quiescent (cfg L Q) s) (hw : WF s) {i : Nat} (hi : i < L) :
    ((s.ws i).pc = 2 ∧ (s.ws i).parked = true ∧ s.cancelled = false) ∨
    ((s.ws i).pc = 3 ∧ (s.ws i).parked = true) ∨ (s.ws i).pc = 4 := by
  obtain ⟨hle, hpk, -⟩ := hw.w i
  by_cases h4 : (s.ws i).pc = 4
  · exact .inr (.inr h4)
  have hp : (s.ws i).parked = true :=
    Bool.of_not_eq_false fun hu => hq.elim (unparked_w hi hu (by omega))
  rcases hpk hp with h | h
  · refine .inl ⟨h, hp, Bool.of_not_eq_true fun hc => ?_⟩
    exact hq.elim (internal_of_tau (done_edge_enabled (g := .w i) hi hc (b := 4) ⟨.inr h, rfl⟩))
  · exact .inr (.inl ⟨h, hp⟩)

/-- in a quiescent state with a live context and some worker `j` idle (not running), nothing is
    pending: every queue goroutine is parked at q0 with an empty buffer, no worker holds an
    unstarted task -/
theorem quiescent_idle {s : St} (hq : Quiescent (cfg L Q) s) (hw : WF s)
    (hc : s.cancelled = false) {j : Nat} (hj : j < L) (hr : ¬ s.running j) :
    ∀ i, i < L → s.buf i = [] ∧ (s.qs i).pc = 0 ∧ ¬ ((s.ws i).pc = 3 ∧ (s.ws i).parked = false) := by
  have live : ∀ {P : Prop}, s.cancelled = true → P := fun h => by rw [hc] at h; cases h
  have hwj : (s.ws j).pc = 2 ∧ (s.ws j).parked = true := by
    rcases quiescent_w hq hw hj with h | h | h
    · exact ⟨h.1, h.2.1⟩
    · exact (hr h).elim
    · exact live ((hw.w j).2.2 h)
  intro i hi
  have hqi : (s.qs i).pc = 0 ∧ s.buf i = [] := by
    rcases quiescent_q hq hw hi with h | h | h
    · exact ⟨h.1, h.2.2.1⟩
    · exact hq.elim (internal_of_tau (hand_enabled hi hj h.1 hwj.1 hwj.2))
    · exact live ((hw.q i).2.2 h)
  refine ⟨hqi.2, hqi.1, fun h => ?_⟩
  rcases quiescent_w hq hw hi with h' | h' | h'
  · omega
  · rw [h'.2] at h; cases h.2
  · omega

theorem catTo_nil {n : Nat} {f : Nat → List Tid} (h : ∀ i, i < n → f i = []) : catTo n f = [] := by
  induction n with
  | zero => rfl
  | succ n ih =>
    simp [catTo, ih (fun i hi => h i (by omega)), h n (by omega)]

theorem pending_nil_of_idle {s : St} (h : ∀ i, i < L → s.buf i = [] ∧ (s.qs i).pc = 0 ∧
    ¬ ((s.ws i).pc = 3 ∧ (s.ws i).parked = false)) : s.pending (cfg L Q) = [] := by
  simp only [St.pending, pendingOf, cfg]
  rw [catTo_nil (fun i hi => (h i hi).1), catTo_nil (f := fun i => qHolding (s.qs i)),
    catTo_nil (f := fun i => wHolding (s.ws i))]
  · rfl
  · intro i hi; simp [wHolding, (h i hi).2.2]
  · intro i hi; simp [qHolding, (h i hi).2.1]


/-- once all `2L` lane goroutines have exited they stay exited and nothing is started any more -/
theorem allExited_xstep {s : St} {l : Label} {s' : St} (he : allExited L s)
    (hx : XStep L Q s l s') : allExited L s' ∧ s'.started = s.started := by
  -- a lane goroutine that moves is not at its exit pc
  have q : ∀ {i a : Nat} {P : Prop}, i < L → (s.qs i).pc = a → a < 6 → P := fun hi h hlt =>
    absurd ((he _ hi).1.symm.trans h) (Nat.ne_of_gt hlt)
  have w : ∀ {i a : Nat} {P : Prop}, i < L → (s.ws i).pc = a → a < 4 → P := fun hi h hlt =>
    absurd ((he _ hi).2.symm.trans h) (Nat.ne_of_gt hlt)
  cases hx with
  | done g a b hl hc hpc hd =>
    cases g with
    | q i => exact q hl hpc (by have := hd.1; omega)
    | w i => exact w hl hpc (by have := hd.1; omega)
    | p k => exact ⟨he, rfl⟩
  | dfltDone g a b hl hu hc hpc hd =>
    cases g with
    | q i => exact q hl hpc (by have := hd.1; omega)
    | w i => exact w hl hpc (by have := hd.1; omega)
    | p k => exact ⟨he, rfl⟩
  | park g a hl hu hpc hd =>
    cases g with
    | q i => exact q hl hpc (by have : a = 0 ∨ a = 4 := hd; omega)
    | w i => exact w hl hpc (by have : a = 2 := hd; omega)
    | p k => exact ⟨he, rfl⟩
  | qTake i hi hpc => exact q hi hpc (by decide)
  | hand i j a b hi hj hpc ha => exact q hi hpc (by omega)
  | pHand k i hk hi hQ hpc hqc => exact q hi hqc (by decide)
  | dfltQ i hi hu hpc => exact q hi hpc (by decide)
  | dfltW i hi hu hpc => exact w hi hpc (by decide)
  | incCnt i hi hpc => exact q hi hpc (by decide)
  | decCnt i hi hpc => exact q hi hpc (by decide)
  | start i hi hu hpc => exact w hi hpc (by decide)
  | finish i v hi hu hpc => exact w hi hpc (by decide)
  | _ => exact ⟨he, rfl⟩

theorem allExited_steps {s s' : St} (he : allExited L s) (hs : Steps (cfg L Q) s s') :
    allExited L s' ∧ s'.started = s.started := by
  induction hs with
  | refl => exact ⟨he, rfl⟩
  | tail s1 l s2 _ hst ih =>
    have := allExited_xstep ih.1 hst.toX
    exact ⟨this.1, this.2.trans ih.2⟩

theorem cancelled_xstep {s : St} {l : Label} {s' : St} (hc : s.cancelled = true)
    (hx : XStep L Q s l s') : s'.cancelled = true := by
  cases hx with
  | cancel => rfl
  | done g => cases g <;> exact hc
  | dfltDone g => cases g <;> exact hc
  | park g => cases g <;> exact hc
  | _ => exact hc

variable {np np' : Nat} {ps ps' : Nat → G} {plane plane' : Nat → Nat} {A A' : List Tid}
  {R R' : List (Tid × PushResult)}

/-- forward invariant for a `PushTask(t)`, the `k`-th, that began after cancellation -/
structure PAC (k : Nat) (t : Tid) (np : Nat) (ps : Nat → G) (A : List Tid)
    (R : List (Tid × PushResult)) : Prop where
  lt : k < np
  held : (ps k).held = t
  pc : (ps k).pc = 0 ∨ (ps k).pc = 2 ∨ (ps k).pc = 5
  acc : t ∉ A
  res : ∀ r, (t, r) ∈ R → r = .ctxErr

/-- in a cancelled context; `hi` is `ProdInv.fresh` -/
theorem PAC.step {k : Nat} {t : Tid} (hp : PAC k t np ps A R)
    (hi : ∀ k k', k < np → k' < np → (ps k).held = (ps k').held → k = k')
    (he : PEff true L np ps plane A R np' ps' plane' A' R') : PAC k t np' ps' A' R' := by
  obtain ⟨hlt, hh, hpc, ha, hr⟩ := hp
  -- producer `k'` moves to `y`: if it is `k` itself, `y` must again be as `PAC` says
  have move : ∀ {k' y A R}, t ∉ A → (∀ r, (t, r) ∈ R → r = .ctxErr) →
      (k' = k → y.held = t ∧ (y.pc = 0 ∨ y.pc = 2 ∨ y.pc = 5)) → PAC k t np (upd ps k' y) A R := by
    intro k' y A R ha hr hy
    by_cases e : k = k'
    · subst e
      exact ⟨hlt, by rw [upd_same]; exact (hy rfl).1, by rw [upd_same]; exact (hy rfl).2, ha, hr⟩
    · exact ⟨hlt, by rwa [upd_other _ _ _ _ e], by rwa [upd_other _ _ _ _ e], ha, hr⟩
  cases he with
  | same => exact ⟨hlt, hh, hpc, ha, hr⟩
  | push t' lane hl hf =>
    have e : upd ps np ⟨0, false, t'⟩ k = ps k := upd_other _ _ _ _ (Nat.ne_of_lt hlt)
    exact ⟨by omega, by rwa [e], by rwa [e], ha, hr⟩
  | silent k' y hk' hy hs =>
    refine move ha hr fun e => ?_
    subst e
    exact ⟨hy.trans hh, by simp [pSilent] at hs; omega⟩
  | accept k' y hk' hy h1 h3 =>
    have hne : (ps k').held ≠ t := fun e => by
      have := hi k' k hk' hlt (e.trans hh.symm)
      subst this; omega
    exact move (fun h => (List.mem_append.1 h).elim ha fun h => hne (List.mem_singleton.1 h).symm) hr
      fun e => by subst e; omega
  | ret k' y r hk' hy h5 hr' =>
    refine move ha (fun r' h => ?_) fun e => by subst e; exact ⟨hy.trans hh, .inr (.inr h5)⟩
    rcases List.mem_append.1 h with h | h
    · exact hr r' h
    · obtain ⟨e, rfl⟩ := Prod.mk.inj (List.mem_singleton.1 h)
      have := hi k' k hk' hlt (e.symm.trans hh.symm)
      subst this
      rcases hr' with ⟨_, h⟩ | ⟨_, _⟩ | ⟨_, _⟩
      · exact h
      · omega
      · omega

/-- a `PushTask` at its first select in a cancelled state keeps `PAC` whatever happens afterwards -/
theorem PAC.steps {s s' : St} (h : Reachable (cfg L Q) s) (hc : s.cancelled = true)
    {k : Nat} (hk : k < s.np) (h0 : (s.ps k).pc = 0) (hs : Steps (cfg L Q) s s') :
    PAC k (s.ps k).held s'.np s'.ps s'.accepted s'.results := by
  suffices Reachable (cfg L Q) s' ∧ s'.cancelled = true ∧
      PAC k (s.ps k).held s'.np s'.ps s'.accepted s'.results from this.2.2
  induction hs with
  | refl =>
    have hp := (wfs_of_reachable h).prod.call k hk
    exact ⟨h, hc, hk, rfl, .inl h0, hp.notAcc (.inl (by omega)),
      fun r hr => absurd hr (hp.noRes (by omega) r)⟩
  | tail s1 l s2 _ hst ih =>
    obtain ⟨hr1, hc1, hp⟩ := ih
    exact ⟨.step _ _ _ hr1 hst, cancelled_xstep hc1 hst.toX, hp.step (wfs_of_reachable hr1).prod.fresh (hc1 ▸ hst.toX.peff)⟩

def qRank (pc : Nat) (parked : Bool) : Nat :=
  match pc with
  | 0 => if parked then 1 else 2
  | 1 => 8
  | 2 => 7
  | 3 => 6
  | 4 => if parked then 4 else 5
  | 5 => 3
  | _ => 0

def wRank (pc : Nat) (parked : Bool) : Nat :=
  match pc with
  | 0 => 6
  | 1 => 5
  | 2 => if parked then 3 else 4
  | 3 => if parked then 1 else 2
  | _ => 0

def pRank (pc : Nat) (parked : Bool) : Nat :=
  match pc with
  | 0 => 12
  | 1 => if parked then 10 else 11
  | 2 => 1
  | 3 => 1
  | 4 => 1
  | _ => 0

def qR (x : G) : Nat := qRank x.pc x.parked
def wR (x : G) : Nat := wRank x.pc x.parked
def pR (x : G) : Nat := pRank x.pc x.parked

/-- the measure over the fields it depends on -/
def muF (L np : Nat) (ps qs ws : Nat → G) (buf : Nat → List Tid) : Nat :=
  sumTo np (fun k => pR (ps k)) + sumTo L (fun i => qR (qs i)) + sumTo L (fun i => wR (ws i)) +
    8 * sumTo L (fun i => (buf i).length)

/-- ranking function: producers, queue goroutines and workers by pc, 8 per buffered task -/
def mu (L _Q : Nat) (s : St) : Nat := muF L s.np s.ps s.qs s.ws s.buf

theorem sumTo_updF_ge {α} (F : α → Nat) (g : Nat → α) {i : Nat} (v : α) {n : Nat} (h : ¬ i < n) :
    sumTo n (fun j => F (upd g i v j)) = sumTo n (fun j => F (g j)) :=
  sumTo_congr n _ _ fun j hj => by rw [upd_other _ _ _ _ (by omega)]

def rank : Gid → G → Nat
  | .q _ => qR
  | .w _ => wR
  | .p _ => pR

theorem mu_set {s : St} {g : Gid} (hl : s.live (cfg L Q) g) (x : G) :
    mu L Q (s.set g x) + rank g (s.get g) = mu L Q s + rank g x := by
  cases g with
  | q i =>
    have : sumG L qR _ + _ = _ := sumG_upd qR s.qs x hl
    show muF L s.np s.ps (upd s.qs i x) s.ws s.buf + qR (s.qs i) = muF L s.np s.ps s.qs s.ws s.buf + qR x
    unfold sumG at this; unfold muF; omega
  | w i =>
    have : sumG L wR _ + _ = _ := sumG_upd wR s.ws x hl
    show muF L s.np s.ps s.qs (upd s.ws i x) s.buf + wR (s.ws i) = muF L s.np s.ps s.qs s.ws s.buf + wR x
    unfold sumG at this; unfold muF; omega
  | p k =>
    have := sumG_upd pR s.ps x hl
    show muF L s.np (upd s.ps k x) s.qs s.ws s.buf + pR (s.ps k) = muF L s.np s.ps s.qs s.ws s.buf + pR x
    unfold sumG at this; unfold muF; omega

theorem mu_set_lt {s : St} {g : Gid} {x : G} (hl : s.live (cfg L Q) g)
    (hr : rank g x < rank g (s.get g)) : mu L Q (s.set g x) < mu L Q s := by
  have := mu_set hl x
  omega

theorem mu_buf {s : St} {i : Nat} (b : List Tid) (h : i < L) :
    mu L Q { s with buf := upd s.buf i b } + 8 * (s.buf i).length = mu L Q s + 8 * b.length := by
  have := sumG_upd List.length s.buf b h
  show muF L s.np s.ps s.qs s.ws (upd s.buf i b) + _ = muF L s.np s.ps s.qs s.ws s.buf + _
  unfold sumG at this; unfold muF; omega

/-- (the lane of a producer need not be `< L` in an arbitrary state) -/
theorem mu_buf_le {s : St} (i : Nat) (t : Tid) :
    mu L Q { s with buf := upd s.buf i (s.buf i ++ [t]) } ≤ mu L Q s + 8 := by
  by_cases h : i < L
  · have := mu_buf (Q := Q) (s := s) (s.buf i ++ [t]) h
    rw [List.length_append, List.length_singleton] at this
    omega
  · exact Nat.le_add_right_of_le (Nat.le_of_eq (by simp only [mu, muF, sumTo_updF_ge List.length s.buf _ h]))

/- Parked is the lower of the two ranks of a pc, so the rank at pc `a` is at least `_Rank a true`;
   the rank after a jump to `b` is `_Rank b false`. -/

theorem qR_lo {x : G} {a : Nat} (h : x.pc = a) : qRank a true ≤ qR x := by
  subst h; unfold qR; cases x.parked
  · unfold qRank; split <;> decide
  · exact Nat.le_refl _

theorem wR_lo {x : G} {a : Nat} (h : x.pc = a) : wRank a true ≤ wR x := by
  subst h; unfold wR; cases x.parked
  · unfold wRank; split <;> decide
  · exact Nat.le_refl _

theorem pR_lo {x : G} {a : Nat} (h : x.pc = a) : pRank a true ≤ pR x := by
  subst h; unfold pR; cases x.parked
  · unfold pRank; split <;> decide
  · exact Nat.le_refl _

theorem qR_goto_lt {x : G} {a b : Nat} (h : x.pc = a) (hab : qRank b false < qRank a true) :
    qR (goto x b) < qR x := Nat.lt_of_lt_of_le hab (qR_lo h)

theorem wR_goto_lt {x : G} {a b : Nat} (h : x.pc = a) (hab : wRank b false < wRank a true) :
    wR (goto x b) < wR x := Nat.lt_of_lt_of_le hab (wR_lo h)

theorem pR_goto_lt {x : G} {a b : Nat} (h : x.pc = a) (hab : pRank b false < pRank a true) :
    pR (goto x b) < pR x := Nat.lt_of_lt_of_le hab (pR_lo h)

theorem rank_done {g : Gid} {x : G} {b : Nat} (he : doneEdge g x.pc b) :
    rank g (goto x b) < rank g x := by
  cases g with
  | q i => obtain ⟨h, rfl⟩ := he; exact qR_goto_lt rfl (by rcases h with h | h | h <;> rw [h] <;> decide)
  | w i => obtain ⟨h, rfl⟩ := he; exact wR_goto_lt rfl (by rcases h with h | h <;> rw [h] <;> decide)
  | p k => obtain ⟨h, rfl⟩ := he; exact pR_goto_lt rfl (by rcases h with h | h <;> rw [h] <;> decide)

theorem rank_dflt {g : Gid} {x : G} {b : Nat} (he : dfltEdge g x.pc b) :
    rank g (goto x b) < rank g x := by
  cases g with
  | q i => obtain ⟨h, rfl⟩ := he; exact qR_goto_lt h (by decide)
  | w i => obtain ⟨h, rfl⟩ := he; exact wR_goto_lt h (by decide)
  | p k => obtain ⟨h, rfl⟩ := he; exact pR_goto_lt h (by decide)

theorem rank_park {g : Gid} {x : G} (hu : x.parked = false) (he : parkPc g x.pc) :
    rank g { x with parked := true } < rank g x := by
  cases g with
  | q i => show qRank x.pc true < qRank x.pc x.parked; rw [hu]; rcases he with h | h <;> rw [h] <;> decide
  | w i => show wRank x.pc true < wRank x.pc x.parked; rw [hu, show x.pc = 2 from he]; decide
  | p k => show pRank x.pc true < pRank x.pc x.parked; rw [hu, show x.pc = 1 from he]; decide

theorem mu_xstep {s : St} {l : Label} {s' : St} (hx : XStep L Q s l s') (hi : internal l = true) :
    mu L Q s' < mu L Q s := by
  cases hx with
  | cancel | push | pTimeout | finish => cases hi
  | done g a b hl hc hpc he => exact mu_set_lt hl (rank_done (hpc ▸ he))
  | dfltDone g a b hl hu hc hpc he => exact mu_set_lt hl (rank_dflt (hpc ▸ he))
  | park g a hl hu hpc he => exact mu_set_lt hl (rank_park hu (hpc ▸ he))
  | dfltQ i hl hu hpc => exact mu_set_lt (g := .q i) hl (qR_goto_lt hpc (by decide))
  | dfltW i hl hu hpc => exact mu_set_lt (g := .w i) hl (wR_goto_lt hpc (by decide))
  | incCnt i hl hpc => exact mu_set_lt (g := .q i) hl (qR_goto_lt hpc (by decide))
  | decCnt i hl hpc => exact mu_set_lt (g := .q i) hl (qR_goto_lt hpc (by decide))
  | start i hl hu hpc => exact mu_set_lt (g := .w i) hl (by show wRank (s.ws i).pc true < wRank (s.ws i).pc (s.ws i).parked; rw [hu, hpc]; decide)
  | pushRet k a r hk hpc hr =>
    have : pRank 5 false < pRank a true := by rcases hr with ⟨rfl, _⟩ | ⟨rfl, _⟩ | ⟨rfl, _⟩ <;> decide
    exact mu_set_lt (g := .p k) hk (pR_goto_lt hpc this)
  | hand i j a b hi' hj hqa ha hwb hb =>
    have hq : qR (goto (s.qs i) 5) < qR (s.qs i) := qR_goto_lt hqa (by rcases ha with rfl | rfl <;> decide)
    have hw : wR ⟨3, false, (s.qs i).held⟩ < wR (s.ws j) :=
      Nat.lt_of_lt_of_le (show wRank 3 false < wRank b true by rcases hb with rfl | rfl <;> decide)
        (wR_lo hwb)
    exact Nat.lt_trans (mu_set_lt (s := s.set (.q i) (goto (s.qs i) 5)) (g := .w j) hj hw)
      (mu_set_lt (g := .q i) hi' hq)
  | qTake i hl hpc hb =>
    -- the queue goroutine goes up from ≥ 1 to 8; the task leaving the buffer pays for it
    have h1 := mu_set (Q := Q) (s := { s with buf := upd s.buf i (s.buf i).tail }) (g := .q i) hl
      ⟨1, false, (s.buf i).headD 0⟩
    have h2 := mu_buf (Q := Q) (s := s) (s.buf i).tail hl
    have h3 : 1 ≤ qR (s.qs i) := qR_lo hpc
    have h4 : (s.buf i).length = (s.buf i).tail.length + 1 := by
      cases hb' : s.buf i with
      | nil => exact (hb hb').elim
      | cons a as => rfl
    change _ + qR (s.qs i) = _ + 8 at h1
    simp only [mu, St.set] at h1 h2 ⊢
    omega
  | pSend k hk hpc hb =>
    -- the producer goes down from ≥ 10 to 1; that pays for the task entering the buffer
    have h1 := mu_set (L := L) (Q := Q) (g := .p k) hk (goto (s.ps k) 3)
      (s := { s with buf := upd s.buf (s.plane k) (s.buf (s.plane k) ++ [(s.ps k).held]),
                     accepted := s.accepted ++ [(s.ps k).held] })
    have h2 := mu_buf_le (L := L) (Q := Q) (s := s) (s.plane k) (s.ps k).held
    have h3 : 10 ≤ pR (s.ps k) := pR_lo hpc
    change _ + pR (s.ps k) = _ + 1 at h1
    simp only [mu, St.set] at h1 h2 ⊢
    omega
  | pHand k i hk hi' hQ hpc hqc =>
    -- producer from ≥ 10 to 1, queue goroutine from ≥ 1 to 8
    have h1 := mu_set (Q := Q) (g := .q i) hi' ⟨1, false, (s.ps k).held⟩
      (s := { s with accepted := s.accepted ++ [(s.ps k).held], ps := upd s.ps k (goto (s.ps k) 3) })
    have h2 := mu_set (L := L) (Q := Q) (s := s) (g := .p k) hk (goto (s.ps k) 3)
    have h3 : 1 ≤ qR (s.qs i) := qR_lo hqc
    have h4 : 10 ≤ pR (s.ps k) := pR_lo hpc
    change _ + qR (s.qs i) = _ + 8 at h1
    change _ + pR (s.ps k) = _ + 1 at h2
    simp only [mu, St.set] at h1 h2 ⊢
    omega


/-- `IRun c s n s'`: `s'` is reached from `s` by exactly `n` internal steps -/
inductive IRun (c : Cfg) (s : St) : Nat → St → Prop where
  | refl : IRun c s 0 s
  | tail (n s' l s'') : IRun c s n s' → Step c s' l s'' → internal l = true → IRun c s (n + 1) s''

theorem IRun.head {c : Cfg} {s s1 s' : St} {l : Label} {n : Nat} (hs : Step c s l s1)
    (hi : internal l = true) (hr : IRun c s1 n s') : IRun c s (n + 1) s' := by
  induction hr with
  | refl => exact .tail 0 s l _ .refl hs hi
  | tail n s2 l' s3 _ hs' hi' ih => exact .tail _ _ _ _ ih hs' hi'

theorem IRun.reachable {c : Cfg} {s s' : St} {n : Nat} (h : Reachable c s) (hr : IRun c s n s') :
    Reachable c s' := by
  induction hr with
  | refl => exact h
  | tail n s2 l s3 _ hs _ ih => exact .step _ _ _ ih hs

theorem IRun.mu_bound {s s' : St} {n : Nat} (hr : IRun (cfg L Q) s n s') :
    n + mu L Q s' ≤ mu L Q s := by
  induction hr with
  | refl => omega
  | tail n s2 l s3 _ hs hi ih => have := mu_xstep hs.toX hi; omega

theorem IRun.cancelled {s s' : St} {n : Nat} (hc : s.cancelled = true)
    (hr : IRun (cfg L Q) s n s') : s'.cancelled = true := by
  induction hr with
  | refl => exact hc
  | tail n s2 l s3 _ hs _ ih => exact cancelled_xstep ih hs.toX

/-- from every state some run of internal steps ends in a quiescent state -/
theorem exists_quiescent (s : St) : ∃ n s', IRun (cfg L Q) s n s' ∧ Quiescent (cfg L Q) s' := by
  generalize hm : mu L Q s = m
  induction m using Nat.strongRecOn generalizing s with
  | _ m ih =>
    by_cases hq : Quiescent (cfg L Q) s
    · exact ⟨0, s, .refl, hq⟩
    · have : ∃ l s1, Step (cfg L Q) s l s1 ∧ internal l = true := by
        apply Classical.byContradiction
        intro hn
        apply hq
        intro l s1 hs
        cases hi : internal l with
        | false => rfl
        | true => exact (hn ⟨l, s1, hs, hi⟩).elim
      obtain ⟨l, s1, hs, hi⟩ := this
      have hlt := mu_xstep hs.toX hi
      obtain ⟨n, s', hr, hq'⟩ := ih (mu L Q s1) (by omega) s1 rfl
      exact ⟨n + 1, s', hr.head hs hi, hq'⟩

/-- there is no infinite execution that from some point on consists of internal steps only -/
theorem no_infinite_internal (f : Nat → St) (lab : Nat → Label) (N : Nat)
    (hs : ∀ n, Step (cfg L Q) (f n) (lab n) (f (n + 1)))
    (hi : ∀ n, N ≤ n → internal (lab n) = true) : False := by
  have h : ∀ n, n + mu L Q (f (N + n)) ≤ mu L Q (f N) := by
    intro n
    induction n with
    | zero => simp
    | succ n ih =>
      have := mu_xstep (hs (N + n)).toX (hi (N + n) (by omega))
      have e : N + (n + 1) = N + n + 1 := by omega
      rw [e]; omega
  have := h (mu L Q (f N) + 1)
  omega


end Glb.TaskLane
