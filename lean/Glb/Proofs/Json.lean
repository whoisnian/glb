/-
  Lemmas about the JSON grammar `P` (C01): framing (a value stays a value in any context), the
  canonical serializer produces what it was built from, and every JSON text passes the lenient
  recogniser `shapeOk`.
-/
import Glb.Proofs.JsonString

set_option linter.unusedSectionVars false
set_option linter.unusedSimpArgs false

namespace Glb.Json
open Glb Glb.JsonHandler Glb.Utf8 Glb.JsonString

/-- a hex digit is `0-9`, `a-f` or `A-F`: ASCII, and neither quote nor backslash -/
theorem hexVal_plain {b : UInt8} {n : Nat} (h : hexVal b = some n) : b < 0x80 ∧ b ≠ 0x22 ∧ b ≠ 0x5C := by
  apply Decidable.by_contra
  intro hn
  simp only [UInt8.lt_iff_toNat_lt, ne_eq, ← UInt8.toNat_inj] at hn
  simp only [hexVal, UInt8.le_iff_toNat_le] at h
  simp at hn
  rw [if_neg (by simp; omega), if_neg (by simp; omega), if_neg (by simp; omega)] at h
  cases h

theorem hex4_plain {a b c e : UInt8} {n : Nat} (h : hex4 a b c e = some n) :
    (a < 0x80 ∧ a ≠ 0x22 ∧ a ≠ 0x5C) ∧ (b < 0x80 ∧ b ≠ 0x22 ∧ b ≠ 0x5C) ∧
    (c < 0x80 ∧ c ≠ 0x22 ∧ c ≠ 0x5C) ∧ (e < 0x80 ∧ e ≠ 0x22 ∧ e ≠ 0x5C) := by
  unfold hex4 at h
  split at h
  · rename_i h1 h2 h3 h4
    exact ⟨hexVal_plain h1, hexVal_plain h2, hexVal_plain h3, hexVal_plain h4⟩
  · cases h

theorem simpleEsc_cases {e b : UInt8} (h : simpleEsc e = some b) :
    e ∈ [0x22, 0x5C, 0x2F, 0x62, 0x66, 0x6E, 0x72, 0x74] := by
  apply Decidable.by_contra
  intro hn
  simp only [List.mem_cons, List.not_mem_nil, or_false, not_or] at hn
  simp [simpleEsc, hn] at h

theorem simpleEsc_char {e b : UInt8} (h : simpleEsc e = some b) : e < 0x80 ∧ e ≠ 0x75 :=
  (by decide : ∀ x ∈ [0x22, 0x5C, 0x2F, 0x62, 0x66, 0x6E, 0x72, 0x74], x < 0x80 ∧ x ≠ (0x75 : UInt8)) e
    (simpleEsc_cases h)

theorem lead_ne_bs {b : UInt8} {x : Nat × UInt8 × UInt8} (h : lead b = some x) : b ≠ 0x5C := by
  have := lead_ge h
  intro e; subst e; simp at this

/-! `startsLowEsc` reads at most the six bytes of a `\\uXXXX`, and gives up at the first or second byte
    of anything else. -/

theorem startsLowEsc_cons {b : UInt8} (h : b ≠ 0x5C) (s t : Bytes) :
    startsLowEsc (b :: s ++ t) = startsLowEsc (b :: s) := by
  simp [startsLowEsc, beq_eq_false_iff_ne.mpr h]

theorem startsLowEsc_esc {e : UInt8} (h : e ≠ 0x75) (s t : Bytes) :
    startsLowEsc (0x5C :: e :: s ++ t) = startsLowEsc (0x5C :: e :: s) := by
  simp [startsLowEsc, beq_eq_false_iff_ne.mpr h]

theorem startsLowEsc_uEsc (a b c e : UInt8) (s t : Bytes) :
    startsLowEsc (uEsc a b c e s ++ t) = startsLowEsc (uEsc a b c e s) := by
  simp [startsLowEsc, uEsc]

theorem startsLowEsc_append {s d r : Bytes} (h : PStr s d r) (t : Bytes) :
    startsLowEsc (s ++ t) = startsLowEsc s := by
  cases h with
  | done => exact startsLowEsc_cons (by decide) _ _
  | plain _ _ _ h4 _ => exact startsLowEsc_cons h4 _ _
  | multi2 hl _ _ _ | multi3 hl _ _ _ _ | multi4 hl _ _ _ _ _ => exact startsLowEsc_cons (lead_ne_bs hl) _ _
  | esc he _ => exact startsLowEsc_esc (simpleEsc_char he).2 _ _
  | uni _ _ _ | pair _ _ _ _ _ | lone _ _ _ _ => exact startsLowEsc_uEsc _ _ _ _ _ _

theorem PStr.frame {s d r : Bytes} (h : PStr s d r) (t : Bytes) : PStr (s ++ t) d (r ++ t) := by
  induction h with
  | done r => exact PStr.done _
  | plain h1 h2 h3 h4 _ ih => exact PStr.plain h1 h2 h3 h4 ih
  | multi2 hl h1 h2 _ ih => exact PStr.multi2 hl h1 h2 ih
  | multi3 hl h1 h2 h3 _ ih => exact PStr.multi3 hl h1 h2 h3 ih
  | multi4 hl h1 h2 h3 h4 _ ih => exact PStr.multi4 hl h1 h2 h3 h4 ih
  | esc he _ ih => exact PStr.esc he ih
  | uni h1 h2 _ ih => exact PStr.uni h1 h2 ih
  | pair h1 h2 h3 h4 _ ih => exact PStr.pair h1 h2 h3 h4 ih
  | lone h1 h2 h3 hp ih => exact PStr.lone h1 h2 ((startsLowEsc_append hp t).symm ▸ h3) ih

theorem P.frame {s r : Bytes} {it : Item} (h : P s it r) (t : Bytes) : P (s ++ t) it (r ++ t) := by
  induction h with
  | ws hb _ ih => exact P.ws hb ih
  | wsAfter hb _ ih => exact P.wsAfter hb ih
  | null r => simpa using P.null (r ++ t)
  | tru r => simpa using P.tru (r ++ t)
  | fls r => simpa using P.fls (r ++ t)
  | num r hn => simpa using P.num (r ++ t) hn
  | str hs => exact P.str (hs.frame t)
  | raw _ ih => rw [List.append_assoc] at ih ⊢; exact P.raw ih
  | arrEmpty r => exact P.arrEmpty _
  | arrWs hb _ ih => exact P.arrWs hb ih
  | arr _ ih => exact P.arr ih
  | objEmpty r => exact P.objEmpty _
  | objWs hb _ ih => exact P.objWs hb ih
  | obj _ ih => exact P.obj ih
  | elemsOne _ ih => exact P.elemsOne ih
  | elemsCons _ _ ih1 ih2 => exact P.elemsCons ih1 ih2
  | memOne _ _ ih1 ih2 => exact P.memOne ih1 ih2
  | memCons _ _ _ ih1 ih2 ih3 => exact P.memCons ih1 ih2 ih3

theorem IsJson.framed {b : Bytes} {v : JV} (h : IsJson b v) (r : Bytes) : P (b ++ r) (.val v) r := by
  simpa using P.frame h r

theorem uEsc_wellFormed {a b c e : UInt8} {n : Nat} {body : Bytes} (h : hex4 a b c e = some n)
    (hb : WellFormedUtf8 body) : WellFormedUtf8 (uEsc a b c e body) := by
  obtain ⟨ha, hb', hc, he⟩ := hex4_plain h
  exact .ascii (by decide) (.ascii (by decide) (.ascii ha.1 (.ascii hb'.1 (.ascii hc.1 (.ascii he.1 hb)))))

theorem PStr.wellFormed {s d r : Bytes} (h : PStr s d r) :
    ∃ body, s = body ++ 0x22 :: r ∧ WellFormedUtf8 body := by
  induction h with
  | done r => exact ⟨[], rfl, .nil⟩
  | plain _ h2 _ _ _ ih =>
    obtain ⟨body, rfl, hb⟩ := ih
    exact ⟨_ :: body, rfl, .ascii h2 hb⟩
  | multi2 hl h1 h2 _ ih =>
    obtain ⟨body, rfl, hb⟩ := ih
    exact ⟨_ :: _ :: body, rfl, .seq2 hl h1 h2 hb⟩
  | multi3 hl h1 h2 h3 _ ih =>
    obtain ⟨body, rfl, hb⟩ := ih
    exact ⟨_ :: _ :: _ :: body, rfl, .seq3 hl h1 h2 h3 hb⟩
  | multi4 hl h1 h2 h3 h4 _ ih =>
    obtain ⟨body, rfl, hb⟩ := ih
    exact ⟨_ :: _ :: _ :: _ :: body, rfl, .seq4 hl h1 h2 h3 h4 hb⟩
  | esc he _ ih =>
    obtain ⟨body, rfl, hb⟩ := ih
    exact ⟨0x5C :: _ :: body, rfl, .ascii (by decide) (.ascii (simpleEsc_char he).1 hb)⟩
  | uni h1 _ _ ih | lone h1 _ _ _ ih =>
    obtain ⟨body, rfl, hb⟩ := ih
    exact ⟨uEsc _ _ _ _ body, rfl, uEsc_wellFormed h1 hb⟩
  | pair h1 _ h3 _ _ ih =>
    obtain ⟨body, rfl, hb⟩ := ih
    exact ⟨uEsc _ _ _ _ (uEsc _ _ _ _ body), rfl, uEsc_wellFormed h1 (uEsc_wellFormed h3 hb)⟩

section ser
variable (q dec : Bytes → Bytes) (hq : ∀ s r, PStr (q s ++ 0x22 :: r) (dec s) r)
include hq

mutual
theorem ser_P : ∀ (t : JV), t.Ok → ∀ r, P (ser q t ++ r) (.val (t.mapStr dec)) r
  | .null, _, r => P.null r
  | .lit true, _, r => P.tru r
  | .lit false, _, r => P.fls r
  | .num _, h, r => P.num r h
  | .str s, _, r => by simpa [ser, JV.mapStr] using P.str (hq s r)
  | .raw _, ⟨⟨_, hv⟩, _⟩, r => P.raw (hv.framed r)
  | .arr [], _, r => P.arrEmpty r
  | .arr (x :: xs), h, r => by simpa [ser, JV.mapStr] using P.arr (serElems_P (x :: xs) (by simp) h r)
  | .obj [], _, r => P.objEmpty r
  | .obj (m :: ms), h, r => by simpa [ser, JV.mapStr] using P.obj (serMems_P (m :: ms) (by simp) h r)
theorem serElems_P : ∀ (xs : List JV), xs ≠ [] → OkL xs →
    ∀ r, P (serElems q xs ++ 0x5D :: r) (.elems (mapStrL dec xs)) r
  | [], h, _, _ => absurd rfl h
  | [x], _, h, r => P.elemsOne (ser_P x h.1 _)
  | x :: y :: xs, _, h, r => by
    simpa [serElems, mapStrL] using P.elemsCons (ser_P x h.1 _) (serElems_P (y :: xs) (by simp) h.2 r)
theorem serMems_P : ∀ (ms : List (Bytes × JV)), ms ≠ [] → OkM ms →
    ∀ r, P (serMems q ms ++ 0x7D :: r) (.members (mapStrM dec ms)) r
  | [], h, _, _ => absurd rfl h
  | [(k, v)], _, h, r => by
    simpa [serMems, mapStrM] using P.memOne (P.str (hq k _)) (ser_P v h.1 _)
  | (k, v) :: m :: ms, _, h, r => by
    simpa [serMems, mapStrM] using
      P.memCons (P.str (hq k _)) (ser_P v h.1 _) (serMems_P (m :: ms) (by simp) h.2 r)
end
end ser

theorem isDigit_atom {b : UInt8} (h : isDigit b = true) : isAtomChar b = true := by
  simp [isAtomChar, h]

theorem numStep_atom {st st' : NumSt} {b : UInt8} (h : numStep st b = some st') : isAtomChar b = true := by
  apply Decidable.by_contra
  intro ha
  simp only [isAtomChar, Bool.or_eq_true, not_or, Bool.not_eq_true] at ha
  obtain ⟨⟨⟨⟨⟨h1, h2⟩, h3⟩, h4⟩, h5⟩, h6⟩ := ha
  have h0 : (b == 0x30) = false := by
    rw [beq_eq_false_iff_ne]; intro e; subst e; simp [isDigit] at h1
  have h7 : (b == 0x65) = false := by
    rw [beq_eq_false_iff_ne]; intro e; subst e; simp at h5
  cases st <;> simp [numStep, h0, h1, h2, h3, h4, h6, h7] at h

theorem numRun_atoms : ∀ (t : Bytes) (st st' : NumSt), numRun st t = some st' → ∀ b ∈ t, isAtomChar b = true
  | [], _, _, _ => by simp
  | x :: t, st, st', h => by
    simp only [numRun] at h
    split at h
    · rename_i st1 h1
      intro b hb
      rcases List.mem_cons.mp hb with rfl | hb
      · exact numStep_atom h1
      · exact numRun_atoms t st1 st' h b hb
    · simp at h

theorem isNumber_atoms {t : Bytes} (h : isNumber t = true) : t ≠ [] ∧ ∀ b ∈ t, isAtomChar b = true := by
  unfold isNumber at h
  split at h
  · rename_i st hst
    refine ⟨?_, numRun_atoms t _ _ hst⟩
    rintro rfl
    simp [numRun] at hst
    subst hst
    simp [numAccept] at h
  · simp at h

theorem atom_ne_nl {b : UInt8} (h : isAtomChar b = true) : b ≠ 0x0A := by
  intro e; subst e; revert h; decide

section noNL
variable (q : Bytes → Bytes) (hq : ∀ s, 0x0A ∉ q s)
include hq

mutual
theorem ser_noNL : ∀ (t : JV), t.Ok → 0x0A ∉ ser q t
  | .null, _ => (by decide : 0x0A ∉ nullText)
  | .lit true, _ => (by decide : 0x0A ∉ trueText)
  | .lit false, _ => (by decide : 0x0A ∉ falseText)
  | .num t, h => fun hm => atom_ne_nl ((isNumber_atoms h).2 _ hm) rfl
  | .str s, _ => by simp [ser, hq s]
  | .raw t, h => h.2
  | .arr xs, h => by simp [ser, serElems_noNL xs h]
  | .obj ms, h => by simp [ser, serMems_noNL ms h]
theorem serElems_noNL : ∀ (xs : List JV), OkL xs → 0x0A ∉ serElems q xs
  | [], _ => by simp [serElems]
  | [x], h => ser_noNL x h.1
  | x :: y :: xs, h => by simp [serElems, ser_noNL x h.1, serElems_noNL (y :: xs) h.2]
theorem serMems_noNL : ∀ (ms : List (Bytes × JV)), OkM ms → 0x0A ∉ serMems q ms
  | [], _ => by simp [serMems]
  | [(k, v)], h => by simp [serMems, hq k, ser_noNL v h.1]
  | (k, v) :: m :: ms, h => by simp [serMems, hq k, ser_noNL v h.1, serMems_noNL (m :: ms) h.2]
end
end noNL

theorem atom_facts (b : UInt8) (h : isAtomChar b = true) :
    isWs b = false ∧ b ≠ 0x7B ∧ b ≠ 0x5B ∧ b ≠ 0x22 := by
  simp only [isAtomChar, isDigit, isWs, Bool.or_eq_true, Bool.and_eq_true, decide_eq_true_eq, beq_iff_eq,
    Bool.or_eq_false_iff, beq_eq_false_iff_ne, ne_eq, ← UInt8.toNat_inj, UInt8.le_iff_toNat_le] at h ⊢
  simp at h ⊢
  omega

theorem ws_facts (b : UInt8) (h : isWs b = true) : b ≠ 0x7B ∧ b ≠ 0x5B ∧ b ≠ 0x22 := by
  simp only [isWs, Bool.or_eq_true, beq_iff_eq] at h
  rcases h with ((rfl | rfl) | rfl) | rfl <;> decide

theorem ws_table : ∀ n ∈ List.range 256, isWs (UInt8.ofNat n) = true →
    UInt8.ofNat n ≠ 0x7B ∧ UInt8.ofNat n ≠ 0x5B ∧ UInt8.ofNat n ≠ 0x22 :=
  fun _ _ => ws_facts _

abbrev St := Option (Mode × List Bool)

def IsValMode (m : Mode) : Prop := m = .val ∨ m = .valOrClose

theorem run_cons (st : Mode × List Bool) (b : UInt8) (t : Bytes) :
    shapeRun (some st) (b :: t) = shapeRun (shapeStep st b) t := by
  simp [shapeRun]

theorem step_val_ws {m : Mode} (hm : IsValMode m) (stk : List Bool) {b : UInt8} (h : isWs b = true) :
    shapeStep (m, stk) b = some (m, stk) := by
  rcases hm with rfl | rfl <;> simp [shapeStep, h]

theorem step_val_atom {m : Mode} (hm : IsValMode m) (stk : List Bool) {b : UInt8} (h : isAtomChar b = true) :
    shapeStep (m, stk) b = some (.afterVal, stk) := by
  obtain ⟨h1, h2, h3, h4⟩ := atom_facts b h
  rcases hm with rfl | rfl <;> simp [shapeStep, h, h1, h2, h3, h4]

theorem step_after_ws (stk : List Bool) {b : UInt8} (h : isWs b = true) :
    shapeStep (.afterVal, stk) b = some (.afterVal, stk) := by
  simp [shapeStep, h]

theorem step_after_atom (stk : List Bool) {b : UInt8} (h : isAtomChar b = true) :
    shapeStep (.afterVal, stk) b = some (.afterVal, stk) := by
  simp [shapeStep, h]

theorem run_atoms (stk : List Bool) : ∀ (t r : Bytes), (∀ b ∈ t, isAtomChar b = true) →
    shapeRun (some (.afterVal, stk)) (t ++ r) = shapeRun (some (.afterVal, stk)) r
  | [], r, _ => by simp
  | b :: t, r, h => by
    rw [List.cons_append, run_cons, step_after_atom stk (h b (by simp))]
    exact run_atoms stk t r (fun x hx => h x (by simp [hx]))

theorem step_val_quote {m : Mode} (hm : IsValMode m) (stk : List Bool) :
    shapeStep (m, stk) 0x22 = some (.str, stk) := by
  rcases hm with rfl | rfl <;> simp [shapeStep, isWs]

theorem step_val_open {m : Mode} (hm : IsValMode m) (stk : List Bool) :
    shapeStep (m, stk) 0x7B = some (.valOrClose, true :: stk) ∧
    shapeStep (m, stk) 0x5B = some (.valOrClose, false :: stk) := by
  rcases hm with rfl | rfl <;> simp [shapeStep, isWs]

theorem step_str_plain (stk : List Bool) {b : UInt8} (h1 : b ≠ 0x22) (h2 : b ≠ 0x5C) :
    shapeStep (.str, stk) b = some (.str, stk) := by
  simp [shapeStep, h1, h2]

theorem step_str_bs (stk : List Bool) : shapeStep (.str, stk) 0x5C = some (.strEsc, stk) := rfl

theorem step_strEsc (stk : List Bool) (e : UInt8) : shapeStep (.strEsc, stk) e = some (.str, stk) := rfl

theorem run_uEsc (stk : List Bool) {a b c e : UInt8} {n : Nat} (h : hex4 a b c e = some n) (s : Bytes) :
    shapeRun (some (.str, stk)) (uEsc a b c e s) = shapeRun (some (.str, stk)) s := by
  obtain ⟨⟨_, a1, a2⟩, ⟨_, b1, b2⟩, ⟨_, c1, c2⟩, ⟨_, e1, e2⟩⟩ := hex4_plain h
  rw [uEsc, run_cons, step_str_bs, run_cons, step_strEsc, run_cons, step_str_plain stk a1 a2, run_cons,
    step_str_plain stk b1 b2, run_cons, step_str_plain stk c1 c2, run_cons, step_str_plain stk e1 e2]

theorem run_str_high (stk : List Bool) : ∀ (p s : Bytes), (∀ x ∈ p, 0x80 ≤ x) →
    shapeRun (some (.str, stk)) (p ++ s) = shapeRun (some (.str, stk)) s
  | [], _, _ => rfl
  | b :: p, s, h => by
    have hb : 0x80 ≤ b := h b (by simp)
    rw [List.cons_append, run_cons, step_str_plain stk (by rintro rfl; exact absurd hb (by decide))
      (by rintro rfl; exact absurd hb (by decide))]
    exact run_str_high stk p s (fun x hx => h x (by simp [hx]))

theorem shape_str {s d r : Bytes} (h : PStr s d r) (stk : List Bool) :
    shapeRun (some (.str, stk)) s = shapeRun (some (.afterVal, stk)) r := by
  induction h with
  | done r => rfl
  | plain _ _ h3 h4 _ ih => rw [run_cons, step_str_plain stk h3 h4, ih]
  | multi2 hl h1 h2 _ ih => exact (run_str_high stk [_, _] _ (multi2 hl h1 h2 []).high).trans ih
  | multi3 hl h1 h2 h3 _ ih => exact (run_str_high stk [_, _, _] _ (multi3 hl h1 h2 h3 []).high).trans ih
  | multi4 hl h1 h2 h3 h4 _ ih =>
    exact (run_str_high stk [_, _, _, _] _ (multi4 hl h1 h2 h3 h4 []).high).trans ih
  | esc _ _ ih => rw [run_cons, step_str_bs, run_cons, step_strEsc, ih]
  | uni h1 _ _ ih | lone h1 _ _ _ ih => rw [run_uEsc stk h1, ih]
  | pair h1 _ h3 _ _ ih => rw [run_uEsc stk h1, run_uEsc stk h3, ih]

/-- the bracket under which the elements of an array (`false`) or the members of an object (`true`) are read -/
def Item.push : Item → List Bool → List Bool
  | .val _, stk => stk
  | .elems _, stk => false :: stk
  | .members _, stk => true :: stk

theorem step_after (stk : List Bool) :
    shapeStep (.afterVal, true :: stk) 0x2C = some (.val, true :: stk) ∧
    shapeStep (.afterVal, false :: stk) 0x2C = some (.val, false :: stk) ∧
    shapeStep (.afterVal, true :: stk) 0x3A = some (.val, true :: stk) ∧
    shapeStep (.afterVal, true :: stk) 0x7D = some (.afterVal, stk) ∧
    shapeStep (.afterVal, false :: stk) 0x5D = some (.afterVal, stk) := by
  simp [shapeStep, isWs, isAtomChar, isDigit]

theorem step_close (stk : List Bool) :
    shapeStep (.valOrClose, true :: stk) 0x7D = some (.afterVal, stk) ∧
    shapeStep (.valOrClose, false :: stk) 0x5D = some (.afterVal, stk) := by
  simp [shapeStep, isWs, isAtomChar, isDigit]

theorem run_literal {m : Mode} (hm : IsValMode m) (stk : List Bool) (t r : Bytes) (hne : t ≠ [])
    (h : ∀ b ∈ t, isAtomChar b = true) :
    shapeRun (some (m, stk)) (t ++ r) = shapeRun (some (.afterVal, stk)) r := by
  match t, hne with
  | b :: t, _ =>
    rw [List.cons_append, run_cons, step_val_atom hm stk (h b (by simp))]
    exact run_atoms stk t r (fun x hx => h x (by simp [hx]))

theorem shape_P {s r : Bytes} {it : Item} (h : P s it r) {m : Mode} (hm : IsValMode m) (stk : List Bool) :
    shapeRun (some (m, it.push stk)) s = shapeRun (some (.afterVal, stk)) r := by
  induction h generalizing m stk
  all_goals simp only [Item.push] at *
  case ws hb _ ih => rw [run_cons, step_val_ws hm stk hb]; exact ih hm stk
  case wsAfter hb _ ih => rw [ih hm stk, run_cons, step_after_ws stk hb]
  case null r | tru r | fls r => exact run_literal hm stk _ r (by decide) (by decide)
  case num r hn => exact run_literal hm stk _ r (isNumber_atoms hn).1 (isNumber_atoms hn).2
  case str hs => rw [run_cons, step_val_quote hm stk]; exact shape_str hs stk
  case raw _ ih => exact ih hm stk
  case arrEmpty r => rw [run_cons, (step_val_open hm stk).2, run_cons, (step_close stk).2]
  case arrWs hb _ ih =>
    have := ih hm stk
    rw [run_cons, (step_val_open hm stk).2] at this ⊢
    rw [run_cons, step_val_ws (Or.inr rfl) _ hb]; exact this
  case arr _ ih => rw [run_cons, (step_val_open hm stk).2]; exact ih (Or.inr rfl) stk
  case objEmpty r => rw [run_cons, (step_val_open hm stk).1, run_cons, (step_close stk).1]
  case objWs hb _ ih =>
    have := ih hm stk
    rw [run_cons, (step_val_open hm stk).1] at this ⊢
    rw [run_cons, step_val_ws (Or.inr rfl) _ hb]; exact this
  case obj _ ih => rw [run_cons, (step_val_open hm stk).1]; exact ih (Or.inr rfl) stk
  case elemsOne _ ih => rw [ih hm (false :: stk), run_cons, (step_after stk).2.2.2.2]
  case elemsCons _ _ ih1 ih2 =>
    rw [ih1 hm (false :: stk), run_cons, (step_after stk).2.1]
    exact ih2 (Or.inl rfl) stk
  case memOne _ _ ih1 ih2 =>
    rw [ih1 hm (true :: stk), run_cons, (step_after stk).2.2.1, ih2 (Or.inl rfl) (true :: stk),
      run_cons, (step_after stk).2.2.2.1]
  case memCons _ _ _ ih1 ih2 ih3 =>
    rw [ih1 hm (true :: stk), run_cons, (step_after stk).2.2.1, ih2 (Or.inl rfl) (true :: stk),
      run_cons, (step_after stk).1]
    exact ih3 (Or.inl rfl) stk

end Glb.Json
