/-
  The executable step enumeration of `Glb.Model.TaskLaneExec` versus the step relation `Step` of
  `Glb.Model.TaskLane`.

  * `enabledSteps_sound`: every enumerated step is a `Step` between the `toSt` images, with the
    label `ELabel.toLabel`, and preserves well-formedness (`finishStep_sound`, `pushStep_sound`
    for the two steps with an environment parameter; `toSt_einit`, `wf_einit` for the start).
  * `steps_complete`: conversely every `Step` out of `toSt e` is produced by `enabledSteps`,
    `finishStep` or `pushStep` — so the enumeration is exact and a search over it that finds no
    execution has really excluded every execution of the model.
  * `enabledSteps_erase` (`finishStep_erase`, `pushStep_erase`): erasing the history fields before a
    step changes only the history fields of the successors — the acceptor's erasure is harmless.
  All statements are for an arbitrary configuration `c` (arbitrary programs), like `Step` itself.
-/
import Glb.Model.TaskLaneExec

namespace Glb.TaskLane.Exec
open Glb.TaskLane

variable {c : Cfg} {e : ESt}

theorem fun_setIfInBounds {α} (a : Array α) {i : Nat} (h : i < a.size) (v d : α) :
    (fun j => (a.setIfInBounds i v).getD j d) = upd (fun j => a.getD j d) i v := by
  funext j
  simp only [Array.getD_eq_getD_getElem?, Array.getElem?_setIfInBounds, upd]
  grind

theorem fun_push {α} (a : Array α) (v d : α) :
    (fun j => (a.push v).getD j d) = upd (fun j => a.getD j d) a.size v := by
  funext j
  simp only [Array.getD_eq_getD_getElem?, Array.getElem?_push, upd]
  grind

theorem WF.of_sizes {e' : ESt} (hw : WF c e) (hb : e'.buf.size = e.buf.size) (hq : e'.qs.size = e.qs.size)
    (hws : e'.ws.size = e.ws.size) (hp : e'.ps.size = e.ps.size) (hpl : e'.plane = e.plane) : WF c e' :=
  ⟨hb.trans hw.buf, hq.trans hw.qs, hws.trans hw.ws, by rw [hpl, hp]; exact hw.plane, by rw [hpl]; exact hw.lanes⟩

theorem mem_gids {g : Gid} : g ∈ gids c e ↔ (toSt e).live c g := by
  cases g <;> simp only [gids, List.mem_append, List.mem_map, List.mem_range, Gid.q.injEq, Gid.w.injEq, Gid.p.injEq,
    exists_eq_right, reduceCtorEq, and_false, exists_false, or_false, false_or] <;> exact Iff.rfl

theorem live_set {s : St} {g h : Gid} (x : G) (hl : s.live c h) : (s.set g x).live c h := by
  cases g <;> exact hl

/-- if `E` represents `s` then replacing the local state of `g` in both keeps that -/
theorem rep_eset {E : ESt} {s : St} {g : Gid} (h : toSt E = s ∧ WF c E) (hl : s.live c g) (f : G → G) :
    toSt (eset E g (f (eget E g))) = s.set g (f (s.get g)) ∧ WF c (eset E g (f (eget E g))) := by
  obtain ⟨rfl, hw⟩ := h
  cases g with
  | q i =>
    exact ⟨congrArg (fun q => { toSt E with qs := q }) (fun_setIfInBounds E.qs (hw.qs ▸ hl) _ {}),
      hw.of_sizes rfl (Array.size_setIfInBounds ..) rfl rfl rfl⟩
  | w i =>
    exact ⟨congrArg (fun q => { toSt E with ws := q }) (fun_setIfInBounds E.ws (hw.ws ▸ hl) _ {}),
      hw.of_sizes rfl rfl (Array.size_setIfInBounds ..) rfl rfl⟩
  | p k =>
    have hs : (E.ps.setIfInBounds k (f (eget E (.p k)))).size = E.ps.size := Array.size_setIfInBounds ..
    refine ⟨?_, hw.of_sizes rfl rfl rfl hs rfl⟩
    unfold toSt eset
    simp only [fun_setIfInBounds E.ps hl, hs]
    rfl

theorem rep_buf {i : Nat} (hw : WF c e) (hi : i < c.L) (b : List Tid) :
    toSt { e with buf := e.buf.setIfInBounds i b } = { toSt e with buf := upd (toSt e).buf i b } ∧
    WF c { e with buf := e.buf.setIfInBounds i b } :=
  ⟨congrArg (fun q => { toSt e with buf := q }) (fun_setIfInBounds e.buf (hw.buf ▸ hi) b []),
    hw.of_sizes (Array.size_setIfInBounds ..) rfl rfl rfl rfl⟩

theorem live_localEffect {s : St} {g h : Gid} {k : Case} (hl : s.live c h) : (localEffect s g k).live c h := by
  unfold localEffect
  split
  · exact live_set _ hl
  · exact hl
  · exact hl

theorem lane_lt (hw : WF c e) {g : Gid} (hl : (toSt e).live c g) : elane e g < c.L := by
  cases g with
  | q i => exact hl
  | w i => exact hl
  | p k => exact hw.lanes k (hw.plane ▸ hl)

theorem toSt_localEffect (hw : WF c e) {g : Gid} (hl : (toSt e).live c g) (k : Case) :
    toSt (elocalEffect e g k) = localEffect (toSt e) g k ∧ WF c (elocalEffect e g k) := by
  cases k with
  | recv x =>
    cases x with
    | buf => exact rep_eset (rep_buf hw (lane_lt hw hl) _) hl fun y => { y with held := (e.buf.getD (elane e g) []).headD 0 }
    | _ => exact ⟨rfl, hw⟩
  | send x =>
    cases x with
    | buf =>
      have := rep_buf (e := { e with accepted := e.accepted ++ [(eget e g).held] }) (hw.of_sizes rfl rfl rfl rfl rfl) (lane_lt hw hl) (e.buf.getD (elane e g) [] ++ [(eget e g).held])
      exact this
    | _ => exact ⟨rfl, hw⟩
  | _ => exact ⟨rfl, hw⟩


theorem toSt_einit (L : Nat) : toSt (einit L) = init := by
  simp [toSt, einit, init, Array.getD_eq_getD_getElem?, Array.getElem?_replicate]
  refine ⟨?_, ?_⟩ <;> funext i <;> split <;> rfl

theorem wf_einit (c : Cfg) : WF c (einit c.L) := by
  constructor <;> simp [einit]

theorem toSt_takeLocal (hw : WF c e) {g : Gid} (hl : (toSt e).live c g) (k : Case) (t : Nat) :
    toSt (eset (elocalEffect e g k) g (goto (eget (elocalEffect e g k) g) t)) =
      (let s1 := localEffect (toSt e) g k; s1.set g (goto (s1.get g) t)) ∧
    WF c (eset (elocalEffect e g k) g (goto (eget (elocalEffect e g k) g) t)) :=
  rep_eset (toSt_localEffect hw hl k) (live_localEffect hl) (goto · t)

/-- the successor of a rendezvous; `takeoverResult e g h x tg th` is `handoverResult e h g x th tg` -/
theorem toSt_handoverResult (hw : WF c e) {g h : Gid} (hg : (toSt e).live c g) (hh : (toSt e).live c h)
    (x : Ch) (tg th : Nat) :
    toSt (handoverResult e g h x tg th) =
      (let s := toSt e
       let s1 := if x = .buf then { s with accepted := s.accepted ++ [(s.get g).held] } else s
       let s2 := s1.set g (goto (s1.get g) tg)
       s2.set h { goto (s2.get h) th with held := (s.get g).held }) ∧
    WF c (handoverResult e g h x tg th) := by
  cases x with
  | buf =>
    exact rep_eset (rep_eset (E := { e with accepted := e.accepted ++ [(eget e g).held] })
      ⟨rfl, hw.of_sizes rfl rfl rfl rfl rfl⟩ hg (goto · tg)) (live_set _ hh)
      fun y => { goto y th with held := (eget e g).held }
  | _ =>
    exact rep_eset (rep_eset ⟨rfl, hw⟩ hg (goto · tg)) (live_set _ hh)
      fun y => { goto y th with held := (eget e g).held }

theorem localReadyB_iff (c : Cfg) (e : ESt) (g : Gid) (k : Case) :
    localReadyB c e g k = true ↔ localReady c (toSt e) g k := by
  cases k with
  | done => exact Iff.rfl
  | timeout => exact iff_of_true rfl trivial
  | recv x =>
    cases x with
    | buf =>
      show (!(e.buf.getD (elane e g) []).isEmpty) = true ↔ e.buf.getD (elane e g) [] ≠ []
      cases e.buf.getD (elane e g) [] <;> simp
    | _ => exact iff_of_false Bool.false_ne_true id
  | send x =>
    cases x with
    | buf => exact decide_eq_true_iff
    | _ => exact iff_of_false Bool.false_ne_true id

theorem mem_parkedTargets {h : Gid} {k : Case} {ch : Ch × Nat} {th : Nat} :
    th ∈ parkedTargets c e h k ch ↔
      (eget e h).parked = true ∧ ∃ cases, einstrAt c e h = some (.select cases none) ∧
        (k, th) ∈ cases ∧ onChan e h k ch = true := by
  unfold parkedTargets
  by_cases hp : (eget e h).parked = true
  · simp only [hp, if_true, true_and]
    cases hi : einstrAt c e h with
    | none => simp
    | some ins =>
      cases ins with
      | halt => simp
      | act a n => simp
      | select cases d =>
        cases d with
        | some d => simp
        | none =>
          simp only [List.mem_filterMap, Option.some.injEq, Instr.select.injEq, and_true]
          constructor
          · rintro ⟨⟨k', t⟩, hm, hx⟩
            split at hx
            · rename_i hc; obtain ⟨rfl, hc⟩ := hc; cases hx; exact ⟨cases, rfl, hm, hc⟩
            · cases hx
          · rintro ⟨cs, rfl, hm, hc⟩
            exact ⟨(k, th), hm, by simp [hc]⟩
  · simp [hp]

theorem mem_partners {g h : Gid} {k : Case} {ch : Ch × Nat} {th : Nat} :
    (h, th) ∈ partners c e g k ch ↔ h ≠ g ∧ parkedOn c (toSt e) h k ch th := by
  have hc : onChan e h k ch = true ↔
      (match k with
       | .recv x => chanOf (toSt e) h x = ch
       | .send x => chanOf (toSt e) h x = ch
       | _ => False) := by
    cases k <;> simp [onChan] <;> exact Iff.rfl
  unfold partners parkedOn
  simp only [List.mem_flatMap]
  constructor
  · rintro ⟨h', hl, hm⟩
    split at hm
    · cases hm
    · next hne =>
      obtain ⟨t, ht, he⟩ := List.mem_map.1 hm
      cases he
      obtain ⟨hp, cs, hi, hmem, ho⟩ := mem_parkedTargets.1 ht
      exact ⟨hne, mem_gids.1 hl, hp, cs, hi, hmem, hc.1 ho⟩
  · rintro ⟨hne, hl, hp, cs, hi, hmem, ho⟩
    refine ⟨h, mem_gids.2 hl, ?_⟩
    rw [if_neg hne]
    exact List.mem_map.2 ⟨th, mem_parkedTargets.2 ⟨hp, cs, hi, hmem, hc.2 ho⟩, rfl⟩

theorem bufGuard_iff (c : Cfg) (x : Ch) : (x != .buf || c.Q == 0) = true ↔ (x = .buf → c.Q = 0) := by
  cases x <;> simp

theorem nonempty_iff {α} (l : List α) : (!l.isEmpty) = true ↔ ∃ x, x ∈ l := by
  cases l <;> simp

theorem partnerReadyB_iff (c : Cfg) (e : ESt) (g : Gid) (k : Case) :
    partnerReadyB c e g k = true ↔ partnerReady c (toSt e) g k := by
  cases k with
  | recv x =>
    simp only [partnerReadyB, partnerReady, Bool.and_eq_true, bufGuard_iff, nonempty_iff, Prod.exists, mem_partners]
    exact Iff.rfl
  | send x =>
    simp only [partnerReadyB, partnerReady, Bool.and_eq_true, bufGuard_iff, nonempty_iff, Prod.exists, mem_partners]
    exact Iff.rfl
  | _ => exact iff_of_false Bool.false_ne_true id

theorem readyB_iff (c : Cfg) (e : ESt) (g : Gid) (k : Case) :
    readyB c e g k = true ↔ ready c (toSt e) g k := by
  simp only [readyB, ready, Bool.or_eq_true, Bool.and_eq_true, localReadyB_iff, partnerReadyB_iff]
  cases k <;> simp

theorem none_ready_iff (c : Cfg) (e : ESt) (g : Gid) (cases : List (Case × Nat)) :
    (cases.all fun kt => !readyB c e g kt.1) = true ↔ ∀ k t, (k, t) ∈ cases → ¬ ready c (toSt e) g k := by
  simp only [List.all_eq_true, Bool.not_eq_true', Prod.forall, ← readyB_iff, Bool.not_eq_true]

theorem sound_of {e' : ESt} {s' : St} {lab : Label} (h : toSt e' = s' ∧ WF c e')
    (hs : Step c (toSt e) lab s') : Step c (toSt e) lab (toSt e') ∧ WF c e' :=
  ⟨h.1 ▸ hs, h.2⟩

theorem selectSteps_sound (hw : WF c e) {g : Gid} (hl : (toSt e).live c g)
    {cases : List (Case × Nat)} {dflt : Option Nat} (hi : einstrAt c e g = some (.select cases dflt))
    {l : ELabel} {e' : ESt} (h : (l, e') ∈ selectSteps c e g cases dflt) :
    Step c (toSt e) l.toLabel (toSt e') ∧ WF c e' := by
  simp only [selectSteps, List.mem_append, List.mem_filterMap, List.mem_flatMap] at h
  rcases h with (⟨⟨k, t⟩, hm, hx⟩ | ⟨⟨k, tg⟩, hm, hx⟩) | h
  · -- a case that is ready by itself
    split at hx
    · next hr =>
      cases hx
      exact sound_of (toSt_takeLocal hw hl k t)
        (Step.takeLocal (toSt e) g cases dflt k t hl hi hm ((localReadyB_iff c e g k).1 hr))
    · cases hx
  · -- rendezvous with a parked partner
    cases k with
    | send x =>
      simp only [rendezvous] at hx
      split at hx
      · next hq =>
        obtain ⟨⟨h, th⟩, hp, hx⟩ := List.mem_map.1 hx
        cases hx
        obtain ⟨hne, hpk⟩ := mem_partners.1 hp
        exact sound_of (toSt_handoverResult hw hl hpk.1 x tg th)
          (Step.handover (toSt e) g h cases dflt x tg th hl hi hm ((bufGuard_iff c x).1 hq) hne hpk)
      · cases hx
    | recv x =>
      simp only [rendezvous] at hx
      split at hx
      · next hq =>
        obtain ⟨⟨h, th⟩, hp, hx⟩ := List.mem_map.1 hx
        cases hx
        obtain ⟨hne, hpk⟩ := mem_partners.1 hp
        exact sound_of (toSt_handoverResult hw hpk.1 hl x th tg)
          (Step.takeover (toSt e) g h cases dflt x tg th hl hi hm ((bufGuard_iff c x).1 hq) hne hpk)
      · cases hx
    | done => cases hx
    | timeout => cases hx
  · -- nothing is ready: default / park
    split at h
    · next hc =>
      have hnr := (none_ready_iff c e g cases).1 hc.2
      cases dflt with
      | some d =>
        cases List.mem_singleton.1 h
        exact sound_of (rep_eset ⟨rfl, hw⟩ hl (goto · d)) (Step.dflt (toSt e) g cases d hl hc.1 hi hnr)
      | none =>
        cases List.mem_singleton.1 h
        exact sound_of (rep_eset ⟨rfl, hw⟩ hl fun y => { y with parked := true })
          (Step.park (toSt e) g cases hl hc.1 hi hnr)
    · cases h

theorem actSteps_sound (hw : WF c e) {g : Gid} (hl : (toSt e).live c g)
    {a : Act} {n : Nat} (hi : einstrAt c e g = some (.act a n))
    {l : ELabel} {e' : ESt} (h : (l, e') ∈ actSteps e g a n) :
    Step c (toSt e) l.toLabel (toSt e') ∧ WF c e' := by
  have ret : ∀ r, (a = .retNil ∧ r = .nil ∨ a = .retCtxErr ∧ r = .ctxErr ∨ a = .retTimeout ∧ r = .timeout) →
      (l, e') ∈ retSteps e g n r → Step c (toSt e) l.toLabel (toSt e') ∧ WF c e' := by
    intro r har h
    cases g with
    | p k =>
      cases List.mem_singleton.1 h
      exact sound_of (rep_eset (g := .p k) (E := { e with results := e.results ++ [((e.ps.getD k {}).held, r)] })
        ⟨rfl, hw.of_sizes rfl rfl rfl rfl rfl⟩ hl (goto · n)) (Step.pushRet (toSt e) k a n r hl hi har)
    | q i => cases h
    | w i => cases h
  cases a with
  | incCnt =>
    cases List.mem_singleton.1 h
    exact sound_of (rep_eset (E := { e with cnt := e.cnt + 1 }) ⟨rfl, hw.of_sizes rfl rfl rfl rfl rfl⟩ hl (goto · n))
      (Step.incCnt (toSt e) g n hl hi)
  | decCnt =>
    cases List.mem_singleton.1 h
    exact sound_of (rep_eset (E := { e with cnt := e.cnt - 1 }) ⟨rfl, hw.of_sizes rfl rfl rfl rfl rfl⟩ hl (goto · n))
      (Step.decCnt (toSt e) g n hl hi)
  | run =>
    cases g with
    | w i =>
      simp only [actSteps] at h
      split at h
      · next hpk =>
        cases List.mem_singleton.1 h
        exact sound_of (rep_eset (g := .w i) (E := { e with started := e.started ++ [(e.ws.getD i {}).held] })
          ⟨rfl, hw.of_sizes rfl rfl rfl rfl rfl⟩ hl fun y => { y with parked := true })
          (Step.start (toSt e) i n hl hpk hi)
      · cases h
    | q i => cases h
    | p k => cases h
  | retNil => exact ret _ (.inl ⟨rfl, rfl⟩) h
  | retCtxErr => exact ret _ (.inr (.inl ⟨rfl, rfl⟩)) h
  | retTimeout => exact ret _ (.inr (.inr ⟨rfl, rfl⟩)) h

theorem stepsOf_sound (hw : WF c e) {g : Gid} (hl : (toSt e).live c g)
    {l : ELabel} {e' : ESt} (h : (l, e') ∈ stepsOf c e g) :
    Step c (toSt e) l.toLabel (toSt e') ∧ WF c e' := by
  unfold stepsOf at h
  split at h
  · next cases dflt hi => exact selectSteps_sound hw hl hi h
  · next a n hi => exact actSteps_sound hw hl hi h
  · cases h

/-- **Soundness of the enumeration**: every enumerated step is a step of the model. -/
theorem enabledSteps_sound {c : Cfg} {e : ESt} (hw : WF c e) {l : ELabel} {e' : ESt}
    (h : (l, e') ∈ enabledSteps c e) : Step c (toSt e) l.toLabel (toSt e') ∧ WF c e' := by
  simp only [enabledSteps, List.mem_append, List.mem_flatMap] at h
  rcases h with h | ⟨g, hg, h⟩
  · unfold cancelSteps at h
    split at h
    · next hc =>
      cases List.mem_singleton.1 h
      exact ⟨Step.cancel (toSt e) hc, hw.of_sizes rfl rfl rfl rfl rfl⟩
    · cases h
  · exact stepsOf_sound hw (mem_gids.1 hg) h

/-- non-vacuity: the initial state of `cfg 1 1` is well-formed (`wf_einit`) and has three enabled
    steps — cancel, the queue goroutine parks on its empty buffer, the worker takes `default` -/
example : (enabledSteps (cfg 1 1) (einit 1)).map (·.1) = [.cancel, .park (.q 0), .dflt (.w 0)] := by decide

theorem toSt_finish (hw : WF c e) {i : Nat} (hi : i < c.L) (n : Nat) (v : Option Nat) :
    let E : ESt := { e with finished := e.finished ++ [(e.ws.getD i {}).held],
                            lastPanic := match v with | some x => some x | none => e.lastPanic,
                            panics := match v with | some x => e.panics ++ [x] | none => e.panics }
    toSt (eset E (.w i) (goto (eget E (.w i)) n)) = (toSt E).set (.w i) (goto ((toSt E).get (.w i)) n) ∧
      WF c (eset E (.w i) (goto (eget E (.w i)) n)) := by
  intro E
  exact rep_eset (g := .w i) (E := E) ⟨rfl, hw.of_sizes rfl rfl rfl rfl rfl⟩ hi (goto · n)

theorem finishStep_sound {c : Cfg} {e : ESt} (hw : WF c e) {i : Nat} {v : Option Nat} {l : ELabel} {e' : ESt}
    (h : finishStep c e i v = some (l, e')) : Step c (toSt e) l.toLabel (toSt e') ∧ WF c e' := by
  unfold finishStep at h
  split at h
  · next hc =>
    split at h
    · next n hi =>
      cases h
      exact sound_of (toSt_finish hw hc.1 n v) (Step.finish (toSt e) i n v hc.1 hc.2 hi)
    · cases h
  · cases h

theorem fresh_iff {t : Tid} :
    (e.ps.all fun x => x.held != t) = true ↔ ∀ k, k < (toSt e).np → ((toSt e).ps k).held ≠ t := by
  rw [Array.all_eq_true]
  refine forall_congr' fun k => forall_congr' fun (hk : k < e.ps.size) => ?_
  simp [toSt, hk]

theorem toSt_push (hw : WF c e) (t : Tid) {lane : Nat} (hlane : lane < c.L) :
    toSt { e with ps := e.ps.push ⟨0, false, t⟩, plane := e.plane.push lane } =
      { toSt e with ps := upd (toSt e).ps (toSt e).np ⟨0, false, t⟩,
                    plane := upd (toSt e).plane (toSt e).np lane, np := (toSt e).np + 1 } ∧
    WF c { e with ps := e.ps.push ⟨0, false, t⟩, plane := e.plane.push lane } := by
  have hpl := fun_push e.plane lane 0
  rw [hw.plane] at hpl
  refine ⟨?_, hw.buf, hw.qs, hw.ws, by simp [hw.plane], fun k hk => ?_⟩
  · unfold toSt
    simp only [fun_push e.ps, hpl, Array.size_push]
  · show (fun j => (e.plane.push lane).getD j 0) k < c.L
    rw [hpl]
    unfold upd
    split
    · exact hlane
    · exact hw.lanes k (by have := hw.plane; simp only [Array.size_push] at hk; omega)

theorem pushStep_sound {c : Cfg} {e : ESt} (hw : WF c e) {t : Tid} {lane : Nat} {l : ELabel} {e' : ESt}
    (h : pushStep c e t lane = some (l, e')) : Step c (toSt e) l.toLabel (toSt e') ∧ WF c e' := by
  unfold pushStep at h
  split at h
  · next hc =>
    cases h
    exact sound_of (toSt_push hw t hc.1) (Step.push (toSt e) t lane hc.1 (fresh_iff.1 hc.2))
  · cases h

/- field by field (the derived instance takes seven times as long to check) -/
instance : DecidableEq ESt
  | ⟨a1, a2, a3, a4, a5, a6, a7, a8, a9, a10, a11, a12, a13⟩, ⟨b1, b2, b3, b4, b5, b6, b7, b8, b9, b10, b11, b12, b13⟩ =>
    decidable_of_iff (a1 = b1 ∧ a2 = b2 ∧ a3 = b3 ∧ a4 = b4 ∧ a5 = b5 ∧ a6 = b6 ∧ a7 = b7 ∧ a8 = b8 ∧ a9 = b9 ∧
      a10 = b10 ∧ a11 = b11 ∧ a12 = b12 ∧ a13 = b13) (ESt.mk.injEq .. ▸ Iff.rfl)

/-- the goroutine whose instruction a step executes -/
def ELabel.mover : ELabel → Option Gid
  | .takeLocal g .. | .handover g .. | .takeover g .. | .dflt g | .park g | .incCnt g | .decCnt g => some g
  | .start i _ => some (.w i)
  | .pushRet k .. => some (.p k)
  | _ => none

/-- The successor of `e` along the step labelled `l`, if that step is enabled; only the steps of
    `l.mover` are enumerated.  A `push` is checked here: `pushStep` tests freshness with
    `Array.all`, which `decide` does not evaluate. -/
def next (c : Cfg) (e : ESt) : ELabel → Option ESt
  | .finish i _ v => (finishStep c e i v).map (·.2)
  | .push _ t lane =>
    if lane < c.L ∧ ∀ x ∈ e.ps.toList, x.held ≠ t then
      some { e with ps := e.ps.push ⟨0, false, t⟩, plane := e.plane.push lane }
    else none
  | l => ((cancelSteps e ++ ((gids c e).filter (some · = l.mover)).flatMap (stepsOf c e)).find? (·.1 = l)).map (·.2)

theorem next_sound (hw : WF c e) {l : ELabel} {e' : ESt} (h : next c e l = some e') :
    ∃ lab, Step c (toSt e) lab (toSt e') ∧ WF c e' := by
  unfold next at h
  split at h
  · obtain ⟨x, hf, rfl⟩ := Option.map_eq_some_iff.1 h
    exact ⟨_, finishStep_sound hw hf⟩
  · next t lane =>
    split at h
    · next hc =>
      cases h
      refine ⟨_, sound_of (toSt_push hw t hc.1) (Step.push (toSt e) t lane hc.1 fun k hk => ?_)⟩
      have hk : k < e.ps.size := hk
      exact hc.2 _ (by simp [toSt, hk])
    · cases h
  · obtain ⟨x, hf, rfl⟩ := Option.map_eq_some_iff.1 h
    rcases List.mem_append.1 (List.mem_of_find?_eq_some hf) with hm | hm
    · exact ⟨_, enabledSteps_sound hw (List.mem_append_left _ hm)⟩
    · obtain ⟨g, hg, hm⟩ := List.mem_flatMap.1 hm
      exact ⟨_, stepsOf_sound hw (mem_gids.1 (List.mem_filter.1 hg).1) hm⟩

/-- Following a list of labels from an `ESt` that represents a reachable state leads to one that
    represents a reachable state: a concrete run is its list of labels, checked by `decide`. -/
theorem reachable_run {e' : ESt} (h : Reachable c (toSt e) ∧ WF c e) {ls : List ELabel}
    (hr : ls.foldlM (next c) e = some e') : Reachable c (toSt e') ∧ WF c e' := by
  induction ls generalizing e with
  | nil => cases hr; exact h
  | cons l ls ih =>
    obtain ⟨e1, h1, h2⟩ := Option.bind_eq_some_iff.1 hr
    obtain ⟨lab, hs, hw⟩ := next_sound h.2 h1
    exact ih ⟨.step _ _ _ h.1 hs, hw⟩ h2

theorem reachable_einit (c : Cfg) : Reachable c (toSt (einit c.L)) ∧ WF c (einit c.L) :=
  ⟨toSt_einit c.L ▸ .init, wf_einit c⟩

theorem mem_enabled_select {g : Gid} (hl : (toSt e).live c g) {cases : List (Case × Nat)} {dflt : Option Nat}
    (hi : einstrAt c e g = some (.select cases dflt)) {x : ELabel × ESt}
    (h : x ∈ selectSteps c e g cases dflt) : x ∈ enabledSteps c e := by
  refine List.mem_append_right _ (List.mem_flatMap.2 ⟨g, mem_gids.2 hl, ?_⟩)
  simp only [stepsOf, hi]
  exact h

theorem mem_enabled_act {g : Gid} (hl : (toSt e).live c g) {a : Act} {n : Nat}
    (hi : einstrAt c e g = some (.act a n)) {x : ELabel × ESt}
    (h : x ∈ actSteps e g a n) : x ∈ enabledSteps c e := by
  refine List.mem_append_right _ (List.mem_flatMap.2 ⟨g, mem_gids.2 hl, ?_⟩)
  simp only [stepsOf, hi]
  exact h

/-- what the three step functions produce -/
def Produced (c : Cfg) (e : ESt) (lab : Label) (s' : St) : Prop :=
  (∃ l e', (l, e') ∈ enabledSteps c e ∧ l.toLabel = lab ∧ toSt e' = s') ∨
  (∃ i v l e', finishStep c e i v = some (l, e') ∧ l.toLabel = lab ∧ toSt e' = s') ∨
  (∃ t lane l e', pushStep c e t lane = some (l, e') ∧ l.toLabel = lab ∧ toSt e' = s')

/-- **Completeness of the enumeration**: every step of the model out of `toSt e` is produced by
    `enabledSteps`, or by `finishStep` / `pushStep` for the steps with an environment parameter. -/
theorem steps_complete {c : Cfg} {e : ESt} (hw : WF c e) {lab : Label} {s' : St}
    (h : Step c (toSt e) lab s') : Produced c e lab s' := by
  cases h with
  | cancel hc =>
    exact .inl ⟨.cancel, { e with cancelled := true },
      List.mem_append_left _ (by rw [cancelSteps, if_pos (show e.cancelled = false from hc)]; exact .head _), rfl, rfl⟩
  | push t lane hlane hfresh =>
    exact .inr (.inr ⟨t, lane, _, _, if_pos ⟨hlane, fresh_iff.2 hfresh⟩, rfl, (toSt_push hw t hlane).1⟩)
  | takeLocal g cases dflt k target hl hi hm hr =>
    refine .inl ⟨.takeLocal g k target, _, mem_enabled_select hl hi ?_, rfl, (toSt_takeLocal hw hl k target).1⟩
    refine List.mem_append_left _ (List.mem_append_left _ (List.mem_filterMap.2 ⟨(k, target), hm, ?_⟩))
    exact if_pos ((localReadyB_iff c e g k).2 hr)
  | handover g h cases dflt x tg th hl hi hm hq hne hpk =>
    refine .inl ⟨.handover g h x, _, mem_enabled_select hl hi ?_, rfl, (toSt_handoverResult hw hl hpk.1 x tg th).1⟩
    refine List.mem_append_left _ (List.mem_append_right _ (List.mem_flatMap.2 ⟨(.send x, tg), hm, ?_⟩))
    simp only [rendezvous, (bufGuard_iff c x).2 hq, if_true]
    exact List.mem_map.2 ⟨(h, th), mem_partners.2 ⟨hne, hpk⟩, rfl⟩
  | takeover g h cases dflt x tg th hl hi hm hq hne hpk =>
    refine .inl ⟨.takeover g h x, _, mem_enabled_select hl hi ?_, rfl, (toSt_handoverResult hw hpk.1 hl x th tg).1⟩
    refine List.mem_append_left _ (List.mem_append_right _ (List.mem_flatMap.2 ⟨(.recv x, tg), hm, ?_⟩))
    simp only [rendezvous, (bufGuard_iff c x).2 hq, if_true]
    exact List.mem_map.2 ⟨(h, th), mem_partners.2 ⟨hne, hpk⟩, rfl⟩
  | dflt g cases d hl hpk hi hnr =>
    refine .inl ⟨.dflt g, _, mem_enabled_select hl hi (List.mem_append_right _ ?_), rfl,
      (rep_eset ⟨rfl, hw⟩ hl (goto · d)).1⟩
    rw [if_pos ⟨hpk, (none_ready_iff c e g cases).2 hnr⟩]
    exact .head _
  | park g cases hl hpk hi hnr =>
    refine .inl ⟨.park g, _, mem_enabled_select hl hi (List.mem_append_right _ ?_), rfl,
      (rep_eset ⟨rfl, hw⟩ hl fun y => { y with parked := true }).1⟩
    rw [if_pos ⟨hpk, (none_ready_iff c e g cases).2 hnr⟩]
    exact .head _
  | incCnt g n hl hi =>
    exact .inl ⟨.incCnt g, _, mem_enabled_act hl hi (.head _), rfl,
      (rep_eset (E := { e with cnt := e.cnt + 1 }) ⟨rfl, hw.of_sizes rfl rfl rfl rfl rfl⟩ hl (goto · n)).1⟩
  | decCnt g n hl hi =>
    exact .inl ⟨.decCnt g, _, mem_enabled_act hl hi (.head _), rfl,
      (rep_eset (E := { e with cnt := e.cnt - 1 }) ⟨rfl, hw.of_sizes rfl rfl rfl rfl rfl⟩ hl (goto · n)).1⟩
  | start i n hiL hpk hi =>
    refine .inl ⟨.start i (e.ws.getD i {}).held, _, mem_enabled_act (g := .w i) hiL hi ?_, rfl,
      (rep_eset (g := .w i) (E := { e with started := e.started ++ [(e.ws.getD i {}).held] })
        ⟨rfl, hw.of_sizes rfl rfl rfl rfl rfl⟩ hiL fun y => { y with parked := true }).1⟩
    simp only [actSteps]
    rw [if_pos (show (e.ws.getD i {}).parked = false from hpk)]
    exact .head _
  | finish i n v hiL hpk hi =>
    refine .inr (.inl ⟨i, v, .finish i (e.ws.getD i {}).held v, _, ?_, rfl, (toSt_finish hw hiL n v).1⟩)
    simp only [finishStep]
    rw [if_pos ⟨hiL, hpk⟩]
    simp only [show einstrAt c e (.w i) = _ from hi]
    rfl
  | pushRet k a n r hk hi har =>
    refine .inl ⟨.pushRet k (e.ps.getD k {}).held r, _, mem_enabled_act (g := .p k) hk hi ?_, rfl,
      (rep_eset (g := .p k) (E := { e with results := e.results ++ [((e.ps.getD k {}).held, r)] })
        ⟨rfl, hw.of_sizes rfl rfl rfl rfl rfl⟩ hk (goto · n)).1⟩
    rcases har with ⟨rfl, rfl⟩ | ⟨rfl, rfl⟩ | ⟨rfl, rfl⟩ <;> exact .head _

/-- Quiescence of a represented state is decided by running the enumeration: `finish` and `push`,
    the steps it leaves to the environment, are not internal. -/
theorem quiescent_of_enum {s : St} (hw : WF c e) (hs : toSt e = s)
    (h : ∀ x ∈ enabledSteps c e, internal x.1.toLabel = false) : Quiescent c s := by
  subst hs
  intro l s' hs
  rcases steps_complete hw hs with ⟨l', e', hm, rfl, -⟩ | ⟨i, v, l', e', hf, rfl, -⟩ | ⟨t, lane, l', e', hp, rfl, -⟩
  · exact h _ hm
  · unfold finishStep at hf
    split at hf
    · split at hf
      · cases hf; rfl
      · cases hf
    · cases hf
  · unfold pushStep at hp
    split at hp
    · cases hp; rfl
    · cases hp

/-- two states that differ in history fields only -/
def SameCore (e1 e2 : ESt) : Prop := erase e1 = erase e2

def er (x : ELabel × ESt) : ELabel × ESt := (x.1, erase x.2)

theorem sameCore_refl (e : ESt) : SameCore e e := rfl

variable {e1 e2 : ESt}

/-- `e1` is `e2` with other history fields: what a function that does not read them computes from
    `e1` is then definitionally what it computes from `e2` -/
theorem SameCore.cases (h : SameCore e1 e2) : ∃ a r s f p,
    e1 = { e2 with accepted := a, results := r, started := s, finished := f, panics := p } := by
  cases e1; cases e2; cases h; exact ⟨_, _, _, _, _, rfl⟩

theorem er_eq {l : ELabel} (h : SameCore e1 e2) : er (l, e1) = er (l, e2) := congrArg (Prod.mk l) h

theorem eget_same (h : SameCore e1 e2) (g : Gid) : eget e1 g = eget e2 g := by
  obtain ⟨_, _, _, _, _, rfl⟩ := h.cases; rfl

theorem eset_same (h : SameCore e1 e2) (g : Gid) (x : G) : SameCore (eset e1 g x) (eset e2 g x) := by
  obtain ⟨_, _, _, _, _, rfl⟩ := h.cases; cases g <;> rfl

theorem eset_get_same (h : SameCore e1 e2) (g : Gid) (f : G → G) :
    SameCore (eset e1 g (f (eget e1 g))) (eset e2 g (f (eget e2 g))) := by
  rw [eget_same h]; exact eset_same h ..

theorem einstrAt_same (h : SameCore e1 e2) (g : Gid) : einstrAt c e1 g = einstrAt c e2 g := by
  obtain ⟨_, _, _, _, _, rfl⟩ := h.cases; rfl

theorem elocalEffect_same (h : SameCore e1 e2) (g : Gid) (k : Case) :
    SameCore (elocalEffect e1 g k) (elocalEffect e2 g k) := by
  obtain ⟨_, _, _, _, _, rfl⟩ := h.cases
  cases k with
  | recv x =>
    cases x with
    | buf => cases g <;> rfl
    | _ => rfl
  | send x => cases x <;> rfl
  | _ => rfl

theorem handoverResult_same (h : SameCore e1 e2) (g g' : Gid) (x : Ch) (tg th : Nat) :
    SameCore (handoverResult e1 g g' x tg th) (handoverResult e2 g g' x tg th) := by
  unfold handoverResult
  rw [eget_same h g]
  refine eset_get_same (eset_get_same ?_ g (goto · tg)) g' fun y => { goto y th with held := (eget e2 g).held }
  obtain ⟨_, _, _, _, _, rfl⟩ := h.cases
  split <;> rfl

theorem rendezvous_same (h : SameCore e1 e2) (g : Gid) (kt : Case × Nat) :
    (rendezvous c e1 g kt).map er = (rendezvous c e2 g kt).map er := by
  obtain ⟨k, tg⟩ := kt
  have hp : ∀ k ch, partners c e1 g k ch = partners c e2 g k ch := by
    obtain ⟨_, _, _, _, _, rfl⟩ := h.cases; exact fun _ _ => rfl
  have hch : ∀ x, echanOf e1 g x = echanOf e2 g x := by
    obtain ⟨_, _, _, _, _, rfl⟩ := h.cases; exact fun _ => rfl
  cases k with
  | send x =>
    simp only [rendezvous, hp, hch]
    split
    · rw [List.map_map, List.map_map]
      exact List.map_congr_left fun ⟨g', th⟩ _ => er_eq (handoverResult_same h g g' x tg th)
    · rfl
  | recv x =>
    simp only [rendezvous, hp, hch]
    split
    · rw [List.map_map, List.map_map]
      exact List.map_congr_left fun ⟨g', th⟩ _ => er_eq (handoverResult_same h g' g x th tg)
    · rfl
  | _ => rfl

theorem filterMap_congr' {α β} {f g : α → Option β} {l : List α} (h : ∀ x ∈ l, f x = g x) :
    l.filterMap f = l.filterMap g := by
  induction l with
  | nil => rfl
  | cons a t ih =>
    simp only [List.filterMap_cons, h a (List.mem_cons_self ..)]
    rw [ih (fun x hx => h x (List.mem_cons_of_mem _ hx))]

theorem flatMap_congr' {α β} {f g : α → List β} {l : List α} (h : ∀ x ∈ l, f x = g x) :
    l.flatMap f = l.flatMap g := by
  induction l with
  | nil => rfl
  | cons a t ih =>
    simp only [List.flatMap_cons, h a (List.mem_cons_self ..)]
    rw [ih (fun x hx => h x (List.mem_cons_of_mem _ hx))]

theorem selectSteps_same (h : SameCore e1 e2) (g : Gid) (cases : List (Case × Nat)) (dflt : Option Nat) :
    (selectSteps c e1 g cases dflt).map er = (selectSteps c e2 g cases dflt).map er := by
  have hl : ∀ k, localReadyB c e1 g k = localReadyB c e2 g k := by
    obtain ⟨_, _, _, _, _, rfl⟩ := h.cases; exact fun _ => rfl
  have hr : ∀ k, readyB c e1 g k = readyB c e2 g k := by
    obtain ⟨_, _, _, _, _, rfl⟩ := h.cases; exact fun _ => rfl
  simp only [selectSteps, List.map_append, List.map_filterMap, List.map_flatMap, hl, hr, eget_same h g]
  congr 1
  · congr 1
    · refine filterMap_congr' fun ⟨k, t⟩ _ => ?_
      split
      · exact congrArg some (er_eq (eset_get_same (elocalEffect_same h g k) g (goto · t)))
      · rfl
    · exact flatMap_congr' fun kt _ => rendezvous_same h g kt
  · split
    · cases dflt with
      | some d => exact congrArg (fun x => [x]) (er_eq (eset_same h ..))
      | none => exact congrArg (fun x => [x]) (er_eq (eset_same h ..))
    · rfl

theorem actSteps_same (h : SameCore e1 e2) (g : Gid) (a : Act) (n : Nat) :
    (actSteps e1 g a n).map er = (actSteps e2 g a n).map er := by
  obtain ⟨_, _, _, _, _, rfl⟩ := h.cases
  cases a with
  | run =>
    cases g with
    | w i =>
      show List.map er (if (e2.ws.getD i {}).parked = false then _ else _) =
        List.map er (if (e2.ws.getD i {}).parked = false then _ else _)
      split <;> rfl
    | _ => rfl
  | _ => cases g <;> rfl

theorem stepsOf_same (h : SameCore e1 e2) (g : Gid) :
    (stepsOf c e1 g).map er = (stepsOf c e2 g).map er := by
  simp only [stepsOf, einstrAt_same h g]
  split
  · exact selectSteps_same h g _ _
  · exact actSteps_same h g _ _
  · rfl

theorem stepsOf_erase (c : Cfg) (e : ESt) (g : Gid) :
    (stepsOf c (erase e) g).map er = (stepsOf c e g).map er :=
  stepsOf_same (e1 := erase e) (e2 := e) rfl g

/-- **The history fields are ghost**: erasing them before a step changes nothing but the history
    fields of the successor (so the acceptor may erase them after every step). -/
theorem enabledSteps_erase (c : Cfg) (e : ESt) :
    (enabledSteps c (erase e)).map er = (enabledSteps c e).map er := by
  simp only [enabledSteps, List.map_append, List.map_flatMap]
  congr 1
  · show List.map er (if e.cancelled = false then _ else _) = List.map er (if e.cancelled = false then _ else _)
    split <;> rfl
  · exact flatMap_congr' fun g _ => stepsOf_erase c e g

theorem finishStep_erase (c : Cfg) (e : ESt) (i : Nat) (v : Option Nat) :
    (finishStep c (erase e) i v).map er = (finishStep c e i v).map er := by
  unfold finishStep
  rw [show einstrAt c (erase e) (.w i) = einstrAt c e (.w i) from rfl]
  show Option.map er (if i < c.L ∧ (e.ws.getD i {}).parked = true then _ else _) =
    Option.map er (if i < c.L ∧ (e.ws.getD i {}).parked = true then _ else _)
  split
  · split <;> rfl
  · rfl

theorem pushStep_erase (c : Cfg) (e : ESt) (t : Tid) (lane : Nat) :
    (pushStep c (erase e) t lane).map er = (pushStep c e t lane).map er := by
  show Option.map er (if lane < c.L ∧ (e.ps.all fun x => x.held != t) = true then _ else _) =
    Option.map er (if lane < c.L ∧ (e.ps.all fun x => x.held != t) = true then _ else _)
  split <;> rfl

end Glb.TaskLane.Exec
