/-
  Helper lemmas for C16: the quoting discipline of ShellEscape seen by the POSIX word lexer.
  Everything here is generic in the replacement literal `r`; the literals of the source are
  plugged in by `Glb.Tie.Strutil`.
-/
import Glb.Model.Strutil
import Glb.Spec.PosixWords

namespace Glb.Strutil
open Glb.PosixWords

/-- byte-wise view of `strings.Replace(s, "'", r, -1)` -/
def quoteEach (r : Bytes) (s : Bytes) : Bytes := s.flatMap fun b => if b = 39 then r else [b]

theorem replaceGo_quote (r : Bytes) (n : Int) (hn : n < 0) (s : Bytes) :
    replaceGo [39] r n 0 s = quoteEach r s := by
  induction s with
  | nil => rfl
  | cons b t ih =>
    have hn0 : n ≠ 0 := Int.ne_of_lt hn
    have hn1 : ¬ n > 0 := Int.not_lt.2 (Int.le_of_lt hn)
    by_cases hb : 39 = b
    · subst hb
      simpa [replaceGo, quoteEach, hn0, hn1] using ih
    · simpa [replaceGo, quoteEach, hb, Ne.symm hb] using ih

theorem run_append (st : St) (a b : Bytes) : run st (a ++ b) = run (run st a) b := by
  simp [run, List.foldl_append]

def inSq (w : List Atom) (ws : List (List Atom)) (sp : Bool) : St :=
  { mode := .sq, cur := some w, words := ws, special := sp }

/-- The property a replacement for `'` must have: read inside single quotes it leaves the lexer
    inside single quotes again, having contributed exactly one literal `'` to the current word and
    nothing else (no new word, no flag). -/
def QuoteNeutral (r : Bytes) : Prop :=
  ∀ w ws sp, run (inSq w ws sp) r = inSq (w ++ [.byte 39]) ws sp

theorem step_sq_plain (w ws sp) (b : UInt8) (hb : b ≠ 39) :
    step (inSq w ws sp) b = inSq (w ++ [.byte b]) ws sp := by
  simp [step, inSq, hb, St.push]

theorem run_quoteEach (r : Bytes) (hr : QuoteNeutral r) (s : Bytes) :
    ∀ w ws sp, run (inSq w ws sp) (quoteEach r s) = inSq (w ++ lit s) ws sp := by
  induction s with
  | nil => intro w ws sp; simp [quoteEach, run, lit]
  | cons b t ih =>
    intro w ws sp
    have hb : run (inSq w ws sp) (if b = 39 then r else [b]) = inSq (w ++ [.byte b]) ws sp := by
      split
      · next h => rw [h]; exact hr w ws sp
      · next h => exact step_sq_plain w ws sp b h
    show run _ ((if b = 39 then r else [b]) ++ quoteEach r t) = _
    rw [run_append, hb, ih, lit, lit, List.map_cons, List.append_assoc]
    rfl

/-- The generic form of C16: after any text `p` that leaves the lexer inside single quotes with the
    word `w0` and nothing else, the quoted `s` and the closing quote complete exactly one word,
    `w0` followed by `s`. -/
theorem lex_quoted (r : Bytes) (hr : QuoteNeutral r) (p : Bytes) (w0 : List Atom)
    (hp : run {} p = inSq w0 [] false) (s : Bytes) :
    lex (p ++ (quoteEach r s ++ [39])) =
      { words := [w0 ++ lit s], special := false, unterminated := false } := by
  unfold lex
  rw [run_append, hp, run_append, run_quoteEach r hr]
  rfl

theorem exceptTilde_prefix (esc : Bytes → Bytes) (p keep r : Bytes) :
    shellEscapeExceptTildeGen esc p keep p.length (p ++ r) = .ok (keep ++ esc r) := by
  simp [shellEscapeExceptTildeGen, hasPrefix, slice?]
  rfl

theorem exceptTilde_other (esc : Bytes → Bytes) (p keep : Bytes) (off : Nat) (s : Bytes)
    (h : hasPrefix s p = false) :
    shellEscapeExceptTildeGen esc p keep off s = .ok (esc s) := by
  simp [shellEscapeExceptTildeGen, h]
  rfl

/-! ### a decidable test for `QuoteNeutral`

The lexer never looks INTO the current word, the finished words or the `special` flag; it only
appends to them (and tests whether a word is open).  So running it from the empty frame and
checking that the word stays open all the way decides the universally quantified property. -/

def frame (w0 : List Atom) (ws0 : List (List Atom)) (sp0 : Bool) (st : St) : St :=
  { st with cur := st.cur.map (w0 ++ ·), words := ws0 ++ st.words, special := sp0 || st.special }

/-- `stepUnq` on an open word that stays open: `b` is neither a blank nor an operator, and every
    other branch only appends. -/
theorem stepUnq_frame (w0 ws0 sp0) (e w ws sp) (b : UInt8)
    (h : (stepUnq ⟨.unq, e, false, some w, ws, sp⟩ b).cur.isSome = true) :
    stepUnq ⟨.unq, e, false, some (w0 ++ w), ws0 ++ ws, sp0 || sp⟩ b
      = frame w0 ws0 sp0 (stepUnq ⟨.unq, e, false, some w, ws, sp⟩ b)
    ∧ (stepUnq ⟨.unq, e, false, some w, ws, sp⟩ b).tilde = false := by
  have hb : ¬ isBlank b := fun hb => by simp [stepUnq, hb, St.endWord] at h
  have ho : ¬ isOperator b := fun ho => by simp [stepUnq, hb, ho, St.endWord, St.flag] at h
  constructor
  · simp only [stepUnq, hb, ho, if_false, apply_ite (frame w0 ws0 sp0)]
    simp only [frame, St.push, St.start, St.flag, Option.getD_some, Option.map_some,
      List.append_assoc, Bool.or_true, Option.isNone_some, Bool.false_eq_true, if_false]
  · simp only [stepUnq, hb, ho, if_false, apply_ite St.tilde, St.push, St.start, St.flag,
      Option.isNone_some, Bool.false_eq_true, ite_self]

theorem step_frame (w0 ws0 sp0) (st : St) (b : UInt8)
    (h1 : st.cur.isSome = true) (h2 : st.tilde = false) (h3 : (step st b).cur.isSome = true) :
    step (frame w0 ws0 sp0 st) b = frame w0 ws0 sp0 (step st b) ∧ (step st b).tilde = false := by
  obtain ⟨m, e, t, cur, ws, sp⟩ := st
  obtain ⟨w, rfl⟩ := Option.isSome_iff_exists.mp h1
  cases h2
  show step ⟨m, e, false, some (w0 ++ w), ws0 ++ ws, sp0 || sp⟩ b = _ ∧ _
  cases m <;> cases e
  case unq.false => exact stepUnq_frame w0 ws0 sp0 false w ws sp b h3
  -- inside quotes or after a backslash every branch only appends
  all_goals
    constructor
    · simp only [step, if_true, Bool.false_eq_true, if_false, apply_ite (frame w0 ws0 sp0)]
      simp only [frame, St.push, St.flag, Option.getD_some, Option.map_some, List.append_assoc,
        Bool.or_true]
    · simp only [step, if_true, Bool.false_eq_true, if_false, apply_ite St.tilde, St.push,
        St.flag, ite_self]

/-- run the lexer and report whether a word was open after every byte -/
def runOpen (st : St) : Bytes → St × Bool
  | [] => (st, true)
  | b :: t =>
    let st' := step st b
    if st'.cur.isSome then runOpen st' t else (st', false)

theorem runOpen_frame (w0 ws0 sp0) (r : Bytes) (st : St)
    (h1 : st.cur.isSome = true) (h2 : st.tilde = false) (h3 : (runOpen st r).2 = true) :
    run (frame w0 ws0 sp0 st) r = frame w0 ws0 sp0 (runOpen st r).1 := by
  fun_induction runOpen st r with
  | case1 => rfl
  | case2 st b t st' h ih =>
    obtain ⟨e1, e2⟩ := step_frame w0 ws0 sp0 st b h1 h2 h
    exact (congrArg (run · t) e1).trans (ih h e2 h3)
  | case3 => cases h3

/-- decidable: started inside single quotes with an empty word, `r` leaves the lexer inside
    single quotes with the word `'`, no other effect, the word open all the way -/
def quoteNeutralCheck (r : Bytes) : Bool :=
  let res := runOpen (inSq [] [] false) r
  res.2 && decide (res.1 = inSq [.byte 39] [] false)

theorem quoteNeutral_of_check (r : Bytes) (h : quoteNeutralCheck r = true) : QuoteNeutral r := by
  intro w ws sp
  simp only [quoteNeutralCheck, Bool.and_eq_true, decide_eq_true_eq] at h
  have := runOpen_frame w ws sp r (inSq [] [] false) (by simp [inSq]) (by simp [inSq]) h.1
  rw [h.2] at this
  simpa [frame, inSq] using this

end Glb.Strutil
