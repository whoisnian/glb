/-
  Helper lemmas for C20: the transition function as a relation, the invariant of the
  launcher/daemon/caller system for every launcher order accepted by `good`, its preservation by
  every step, and what it gives at maximal states.
-/
import Glb.Model.Daemon

namespace Glb.Daemon

/-- `lstep` as a relation: one constructor per branch.  Only `LNext.of_lstep` ties it to `lstep`: what is
    shown of every `LNext` step holds of every step of the model, and nothing needs the converse. -/
inductive LNext (s : St) : St → Prop
  | notify {r} : s.todo = .notify :: r → LNext s { s with todo := r, handler := true }
  | start {r} : s.todo = .start :: r → s.dstate = .notStarted →
      LNext s { s with todo := r, dstate := .working }
  | startFail {r} : s.todo = .start :: r → s.dstate ≠ .notStarted →
      LNext s { s with todo := r, stderr := true, lstatus := .failed, dparent := .init }
  | printFail {r} : s.todo = .printPid :: r → s.dstate = .notStarted →
      LNext s { s with todo := r, stderr := true, lstatus := .failed }
  | printPid {r} : s.todo = .printPid :: r → s.dstate ≠ .notStarted →
      LNext s { s with todo := r, printed := true }
  | spawnWaiter {r} : s.todo = .spawnWaiter :: r → LNext s { s with todo := r, waiterOn := true }
  | selectSignal {r} : s.todo = .select :: r → s.pending = true →
      LNext s { s with todo := r, pending := false, selected := true }
  | selectFinished {r} : s.todo = .select :: r → ¬ s.pending = true → s.finished = true →
      LNext s { s with todo := r, selected := true }
  | pause {r} : s.todo = .pause :: r → s.released = true → LNext s { s with todo := r }
  | other {r} : s.todo = .other :: r → LNext s { s with todo := r }

/-- `step` as a relation: one constructor per branch (`ret` in two, by the launcher's status); tied to `step`
    by `Step.of_step` alone, as `LNext` is. -/
inductive Step (s : St) : Label → St → Prop
  | lnext {s'} : s.lstatus = .running → LNext s s' → Step s .lnext s'
  | lexit : s.lstatus = .running → s.todo = [] →
      Step s .lexit { s with lstatus := .exited, dparent := .init }
  | work : s.dstate = .working ∨ s.dstate = .ran → Step s .work s
  | done : s.dstate = .working →
      Step s .done { s with dstate := .ran, doneSeen := true,
                            inflight := s.dparent = .launcher ∧ s.lstatus = .running }
  | deliver : s.inflight = true → s.lstatus = .running → s.handler = true →
      Step s .deliver { s with inflight := false, pending := true }
  | deliverKill : s.inflight = true → s.lstatus = .running → ¬ s.handler = true →
      Step s .deliver { s with inflight := false, lstatus := .killed, dparent := .init }
  | deliverLate : s.inflight = true → s.lstatus ≠ .running →
      Step s .deliver { s with inflight := false }
  | crash : s.dstate = .working → Step s .crash { s with dstate := .crashed }
  | waiter : s.lstatus = .running → s.waiterOn = true → s.dstate = .crashed → ¬ s.finished = true →
      Step s .waiter { s with finished := true, stderr := true }
  | release : ¬ s.released = true → Step s .release { s with released := true }
  | ret : s.result = none → s.lstatus = .exited →
      Step s .ret { s with
        result := some (if s.stderr then .err else if s.printed then .ok daemonPid else .err)
        retAfterDone := s.doneSeen }
  | retDead : s.result = none → s.lstatus ≠ .running → s.lstatus ≠ .exited →
      Step s .ret { s with result := some .err, retAfterDone := s.doneSeen }

theorem LNext.of_lstep {s s' : St} (h : lstep s = some s') : LNext s s' := by
  revert h
  fun_cases lstep s <;> intro h <;> cases h
  · exact .notify ‹_›
  · exact .start ‹_› ‹_›
  · exact .startFail ‹_› ‹_›
  · exact .printFail ‹_› ‹_›
  · exact .printPid ‹_› ‹_›
  · exact .spawnWaiter ‹_›
  · exact .selectSignal ‹_› ‹_›
  · exact .selectFinished ‹_› ‹_› ‹_›
  · exact .pause ‹_› ‹_›
  · exact .other ‹_›

theorem Step.of_step {s s' : St} {l : Label} (h : step s l = some s') : Step s l s' := by
  revert h
  fun_cases step s l <;> intro h
  case case1 hr => exact .lnext hr (.of_lstep h)
  all_goals cases h
  · next hc => exact .lexit hc.1 hc.2
  · exact .work ‹_›
  · exact .done ‹_›
  · exact .deliver ‹_› ‹_› ‹_›
  · exact .deliverKill ‹_› ‹_› ‹_›
  · exact .deliverLate ‹_› ‹_›
  · exact .crash ‹_›
  · next hc => exact .waiter hc.1 hc.2.1 hc.2.2.1 hc.2.2.2
  · exact .release ‹_›
  · next hc r =>
    dsimp only [r]
    split
    · exact .ret hc.1 ‹_›
    · exact .retDead hc.1 hc.2 ‹_›

theorem run_cons {l : Label} {ls : List Label} {s s' : St} (h : run (l :: ls) s = some s') :
    ∃ s1, Step s l s1 ∧ run ls s1 = some s' := by
  simp only [run] at h
  split at h
  · exact ⟨_, .of_step ‹_›, h⟩
  · cases h

theorem run_preserves {P : St → Prop} (hP : ∀ s l s', P s → Step s l s' → P s')
    (tr : List Label) (s s' : St) (hs : P s) (h : run tr s = some s') : P s' := by
  induction tr generalizing s with
  | nil => cases h; exact hs
  | cons l ls ih =>
    obtain ⟨s1, h1, h2⟩ := run_cons h
    exact ih s1 (hP s l s1 hs h1) h2

theorem run_append (a b : List Label) (s s' : St) (h : run (a ++ b) s = some s') :
    ∃ s1, run a s = some s1 ∧ run b s1 = some s' := by
  induction a generalizing s with
  | nil => exact ⟨s, rfl, h⟩
  | cons l ls ih =>
    simp only [List.cons_append, run] at h ⊢
    split at h
    · exact ih _ h
    · cases h

theorem doneSeen_step {s s' : St} {l : Label} (h : Step s l s') :
    s'.doneSeen = (s.doneSeen || l == .done) := by
  cases h with
  | lnext _ h => cases h <;> exact (Bool.or_false _).symm
  | done => exact (Bool.or_true _).symm
  | _ => exact (Bool.or_false _).symm

theorem doneSeen_run (tr : List Label) (s s' : St) (h : run tr s = some s') :
    s'.doneSeen = (s.doneSeen || tr.contains .done) := by
  induction tr generalizing s with
  | nil => cases h; exact (Bool.or_false _).symm
  | cons l ls ih =>
    obtain ⟨s1, h1, h2⟩ := run_cons h
    rw [ih s1 h2, doneSeen_step h1, List.contains_cons, Bool.or_assoc, Bool.beq_comm]

/-- `Launch` returns once: no step changes a result that is there. -/
theorem result_step (r : Result) (s : St) (l : Label) (s' : St) (hr : s.result = some r)
    (h : Step s l s') : s'.result = some r := by
  cases h with
  | lnext _ h => cases h <;> exact hr
  | ret hn | retDead hn => rw [hn] at hr; cases hr
  | _ => exact hr

theorem result_ret {s s' : St} (h : Step s .ret s') : ∃ r, s'.result = some r := by
  cases h <;> exact ⟨_, rfl⟩


/-- What holds in every reachable state when the launcher's order is accepted by `good`. -/
structure Invariant (s : St) : Prop where
  order : s.lstatus = .running →
    good s.handler s.dstate.started s.printed s.selected s.todo = true
  alive : s.lstatus = .running ∧ s.dparent = .launcher ∨ s.lstatus = .exited ∧ s.dparent = .init
  stderr : s.stderr = true → s.dstate = .crashed
  finished : s.finished = true → s.stderr = true
  ran : s.doneSeen = true ↔ s.dstate = .ran
  handler : s.dstate ≠ .notStarted → s.handler = true
  exited : s.lstatus = .exited → s.printed = true ∧ s.selected = true
  selected : s.selected = true → s.doneSeen = true ∨ s.finished = true
  pending : s.pending = true → s.doneSeen = true
  inflight : s.inflight = true → s.doneSeen = true
  signal : s.doneSeen = true → s.inflight = true ∨ s.pending = true ∨ s.selected = true
  result : ∀ r, s.result = some r →
    s.lstatus = .exited ∧ (r = .ok daemonPid ∨ (r = .err ∧ s.dstate = .crashed))
  resultOk : ∀ p, s.result = some (.ok p) → s.retAfterDone = true
  retAfterDone : s.retAfterDone = true → s.doneSeen = true

theorem inv_init (order : List LStep) (h : GoodOrder order) : Invariant (init order) := by
  have h : good false false false false order = true := h
  constructor <;> simp [init, h, DState.started]

/-- A launcher step keeps the invariant.  Each case names the facts that mention a field the step
    writes; `good` rules out the two failing branches. -/
theorem Invariant.lnext {s s' : St} (hi : Invariant s) (hr : s.lstatus = .running)
    (h : LNext s s') : Invariant s' := by
  have g := hi.order hr
  cases h with
  | notify ht =>
    rw [ht] at g
    exact { hi with order := fun _ => g, handler := fun _ => rfl }
  | start ht hd =>
    rw [ht, hd] at g
    simp only [good, Bool.and_eq_true] at g
    exact { hi with
      order := fun _ => g.2
      stderr := fun h => nomatch hd.symm.trans (hi.stderr h)
      ran := ⟨fun h => (nomatch hd.symm.trans (hi.ran.mp h)), nofun⟩
      handler := fun _ => g.1.1
      result := fun r h => nomatch hr.symm.trans (hi.result r h).1 }
  | startFail ht hd =>
    rw [ht] at g
    simp only [good, Bool.and_eq_true, Bool.not_eq_true'] at g
    cases hs : s.dstate <;> simp [hs, DState.started] at g hd
  | printFail ht hd =>
    rw [ht, hd] at g
    simp [good, DState.started] at g
  | printPid ht hd =>
    rw [ht] at g
    simp only [good, Bool.and_eq_true] at g
    exact { hi with order := fun _ => g.2, exited := fun h => ⟨rfl, (hi.exited h).2⟩ }
  | spawnWaiter ht | pause ht | other ht =>
    rw [ht] at g
    exact { hi with order := fun _ => g }
  | selectSignal ht hp =>
    rw [ht] at g
    simp only [good, Bool.and_eq_true] at g
    exact { hi with
      order := fun _ => g.2
      exited := fun h => ⟨(hi.exited h).1, rfl⟩
      selected := fun _ => .inl (hi.pending hp)
      pending := nofun
      signal := fun _ => .inr (.inr rfl) }
  | selectFinished ht _ hf =>
    rw [ht] at g
    simp only [good, Bool.and_eq_true] at g
    exact { hi with
      order := fun _ => g.2
      exited := fun h => ⟨(hi.exited h).1, rfl⟩
      selected := fun _ => .inr hf
      signal := fun _ => .inr (.inr rfl) }


theorem Invariant.running_or_exited {s : St} (hi : Invariant s) :
    s.lstatus = .running ∨ s.lstatus = .exited :=
  hi.alive.imp And.left And.left

theorem Invariant.exited_parent {s : St} (hi : Invariant s) (he : s.lstatus = .exited) :
    s.dparent = .init :=
  (hi.alive.resolve_left fun h => nomatch h.1.symm.trans he).2

theorem Invariant.step (s : St) (l : Label) (s' : St) (hi : Invariant s) (h : Step s l s') :
    Invariant s' := by
  cases h with
  | lnext hr h => exact hi.lnext hr h
  | lexit hr ht =>
    have g := hi.order hr
    rw [ht] at g
    simp only [good, Bool.and_eq_true] at g
    exact { hi with
      order := nofun
      alive := .inr ⟨rfl, rfl⟩
      exited := fun _ => g
      result := fun r h => ⟨rfl, (hi.result r h).2⟩ }
  | work => exact hi
  | done hd =>
    exact { hi with
      order := fun h => (hd ▸ hi.order h :)
      stderr := fun h => nomatch hd.symm.trans (hi.stderr h)
      ran := ⟨fun _ => rfl, fun _ => rfl⟩
      handler := fun _ => hi.handler (hd ▸ nofun)
      selected := fun _ => .inl rfl
      pending := fun _ => rfl
      inflight := fun _ => rfl
      signal := fun _ => hi.alive.elim (fun h => .inl (decide_eq_true ⟨h.2, h.1⟩))
        fun h => .inr (.inr (hi.exited h.1).2)
      result := fun r h => by
        obtain ⟨he, hok | ⟨_, hc⟩⟩ := hi.result r h
        · exact ⟨he, .inl hok⟩
        · cases hd.symm.trans hc
      retAfterDone := fun _ => rfl }
  | deliver hin =>
    exact { hi with
      pending := fun _ => hi.inflight hin
      inflight := nofun
      signal := fun _ => .inr (.inl rfl) }
  | deliverKill hin _ hh =>
    exact absurd (hi.handler (hi.ran.mp (hi.inflight hin) ▸ nofun)) hh
  | deliverLate hin hr =>
    have he := hi.running_or_exited.resolve_left hr
    exact { hi with
      inflight := nofun
      signal := fun _ => .inr (.inr (hi.exited he).2) }
  | crash hd =>
    exact { hi with
      order := fun h => (hd ▸ hi.order h :)
      stderr := fun _ => rfl
      ran := ⟨fun h => (nomatch hd.symm.trans (hi.ran.mp h)), nofun⟩
      handler := fun _ => hi.handler (hd ▸ nofun)
      result := fun r h => ⟨(hi.result r h).1, (hi.result r h).2.imp_right fun h => ⟨h.1, rfl⟩⟩ }
  | waiter _ _ hd =>
    exact { hi with
      stderr := fun _ => hd
      finished := fun _ => rfl
      selected := fun h => (hi.selected h).imp_right fun _ => rfl }
  | release => exact { hi with }
  | ret _ he =>
    -- with the launcher exited the pid is printed and the select has been passed: the result
    -- is an error only through stderr, which means a crashed daemon
    exact { hi with
      result := fun r h => by
        cases h
        refine ⟨he, ?_⟩
        cases hs : s.stderr
        · exact .inl (by simp [(hi.exited he).1])
        · exact .inr ⟨rfl, hi.stderr hs⟩
      resultOk := fun p h => by
        cases hs : s.stderr
        · exact (hi.selected (hi.exited he).2).resolve_right
            fun hf => by rw [hi.finished hf] at hs; cases hs
        · simp [hs] at h
      retAfterDone := id }
  | retDead _ hr he => cases hi.running_or_exited <;> contradiction


theorem inv_run (order : List LStep) (h : GoodOrder order) (tr : List Label) (s : St)
    (hr : run tr (init order) = some s) : Invariant s :=
  run_preserves Invariant.step tr _ s (inv_init order h) hr

theorem lstep_eq_none {s : St} (h : lstep s = none) :
    s.todo = [] ∨ (∃ r, s.todo = .select :: r ∧ s.pending = false ∧ s.finished = false)
      ∨ ∃ r, s.todo = .pause :: r ∧ s.released = false := by
  revert h
  fun_cases lstep s <;> intro h <;> cases h
  · exact .inl ‹_›
  · exact .inr (.inl ⟨_, ‹_›, Bool.eq_false_iff.mpr ‹_›, Bool.eq_false_iff.mpr ‹_›⟩)
  · exact .inr (.inr ⟨_, ‹_›, Bool.eq_false_iff.mpr ‹_›⟩)

/-- at a maximal state after `Done()`, Launch has returned the daemon's pid, the launcher has
    exited normally and the daemon is alive and re-parented -/
theorem maximal_done (s : St) (hi : Invariant s) (hd : s.doneSeen = true) (hm : Maximal s) :
    s.result = some (.ok daemonPid) ∧ s.retAfterDone = true ∧ s.lstatus = .exited
      ∧ s.dstate = .ran ∧ s.dparent = .init := by
  have hrel : s.released = true := by simpa [step] using hm .release (by decide)
  have hnin : s.inflight = false := by
    have := hm .deliver (by decide)
    simp only [step] at this
    split at this
    · split at this
      · split at this <;> cases this
      · cases this
    · exact Bool.eq_false_iff.mpr ‹_›
  -- the launcher is not running any more: it would be blocked at a select with `selected`
  -- false, which leaves the signal nowhere
  have hex : s.lstatus = .exited := by
    refine hi.running_or_exited.resolve_left fun hr => ?_
    have g := hi.order hr
    have hl := hm .lnext (by decide)
    have hx := hm .lexit (by decide)
    simp only [step, hr, if_true] at hl
    simp only [step, hr, true_and] at hx
    rcases lstep_eq_none hl with ht | ⟨r, ht, hp, _⟩ | ⟨r, ht, hp⟩
    · simp [ht] at hx
    · rw [ht] at g
      simp only [good, Bool.and_eq_true, Bool.not_eq_true'] at g
      rcases hi.signal hd with h | h | h
      · rw [hnin] at h; cases h
      · rw [hp] at h; cases h
      · rw [g.1] at h; cases h
    · rw [hrel] at hp; cases hp
  have hres : s.result ≠ none := by
    intro hn
    have := hm .ret (by decide)
    simp [step, hn, hex] at this
  obtain ⟨r, hr⟩ := Option.ne_none_iff_exists'.mp hres
  rcases (hi.result r hr).2 with hok | herr
  · subst hok
    exact ⟨hr, hi.resultOk _ hr, hex, hi.ran.mp hd, hi.exited_parent hex⟩
  · have := hi.ran.mp hd
    rw [herr.2] at this
    cases this


/- Progress (`C20.launch_terminates`): every step other than the daemon's own work uses up a bounded budget.  Every such
   step lowers a term of `budget` and, `done` apart, raises none: a launcher step shortens `todo` (the
   factor 2 is slack), `lexit` ends `running`, and so on down the constructors of `Step`.  A daemon that has
   not finished weighs 2 because `done` may put a signal in flight (+1). -/

def DState.pot : DState → Nat
  | .notStarted => 2
  | .working => 2
  | .ran => 0
  | .crashed => 0

def budget (s : St) : Nat :=
  2 * s.todo.length + (if s.lstatus = .running then 1 else 0) + (if s.inflight then 1 else 0)
    + s.dstate.pot + (if s.finished then 0 else 1) + (if s.released then 0 else 1)
    + (if s.result = none then 1 else 0)

end Glb.Daemon
