/-
  Helper lemmas for C04: keys, tags, and the trie invariant `TInv`.

  `TInv S P t`: the trie `t` is exactly what the successfully registered routes `S` (with their
  ids) and the key paths `P` walked by refused registrations have built:
    * a node exists at key path `ks` iff `ks = []`, or `ks` is a prefix of the full key path
      (pattern keys ++ [method tag]) of a route in `S`, or a prefix of a path in `P`;
    * the payload (`info`, `paramNameList`) of a node is that of the route whose full key path
      leads to it, and empty for every other node.
-/
import Glb.Proofs.RouterParse
import Glb.Tie.Httpd

namespace Glb.Router
open Glb.RouteList (Elem Route PName pattern fragments classify cutStar pnames paramNames)
open Glb.Generated (routeParam routeParamAny methodTagMap)

theorem assocGet_mem {α} {l : List (Bytes × α)} {k : Bytes} {v : α} (h : assocGet l k = some v) : (k, v) ∈ l := by
  induction l with
  | nil => simp [assocGet] at h
  | cons e r ih =>
    obtain ⟨k0, v0⟩ := e
    by_cases h0 : k0 = k
    · simp [assocGet, h0] at h; simp [h0, h]
    · simp [assocGet, h0] at h; exact List.mem_cons_of_mem _ (ih h)

theorem assocGet_isSome_iff {α} (l : List (Bytes × α)) (k : Bytes) : (assocGet l k).isSome ↔ k ∈ l.map (·.1) := by
  induction l with
  | nil => simp [assocGet]
  | cons e r ih =>
    obtain ⟨k0, v0⟩ := e
    by_cases h0 : k0 = k
    · simp [assocGet, h0]
    · have : ¬ k = k0 := fun h => h0 h.symm
      simp [assocGet, h0, ih, this]

def elemKey : Elem → Bytes
  | .lit s => s
  | .param _ => routeParam
  | .star => routeParamAny

def keysOf (es : List Elem) : List Bytes := es.map elemKey

def nameKey : PName → Bytes
  | .named n => n
  | .star => routeParamAny

/-- `paramNameList` of a route -/
def namesOf (es : List Elem) : List Bytes := (pnames es).map nameKey

/-- the keys a path fragment can produce -/
def PathKey (k : Bytes) : Prop := k = routeParam ∨ k = routeParamAny ∨ (k ≠ [] ∧ (47 : UInt8) ∉ k)

theorem head_mem {k : Bytes} {b : UInt8} (h : k.head? = some b) : b ∈ k := by
  cases k with
  | nil => simp at h
  | cons c r => simp at h; simp [h]

theorem tag_head {m k : Bytes} (h : methodTag? m = some k) : k.head? = some 47 :=
  Tie.Httpd.tags_slash _ (assocGet_mem h)

theorem tag_not_pathKey {m k : Bytes} (h : methodTag? m = some k) : ¬ PathKey k := by
  intro hp
  have hr := Tie.Httpd.tags_not_reserved _ (assocGet_mem h)
  rcases hp with hp | hp | ⟨_, hp⟩
  · exact hr.1 hp
  · exact hr.2 hp
  · exact hp (head_mem (tag_head h))

theorem nil_not_pathKey : ¬ PathKey [] := by
  intro hp
  have hr := Tie.Httpd.reserved_slash
  rcases hp with hp | hp | ⟨hp, _⟩
  · rw [← hp] at hr; simp at hr
  · rw [← hp] at hr; simp at hr
  · exact hp rfl

theorem pathKey_routeParam : PathKey routeParam := Or.inl rfl
theorem pathKey_routeParamAny : PathKey routeParamAny := Or.inr (Or.inl rfl)

theorem slashfree_ne_reserved {k : Bytes} (h : (47 : UInt8) ∉ k) : k ≠ routeParam ∧ k ≠ routeParamAny := by
  have hr := Tie.Httpd.reserved_slash
  constructor
  · intro e; subst e; exact h (head_mem hr.1)
  · intro e; subst e; exact h (head_mem hr.2)

theorem slashfree_not_tag {m k : Bytes} (h : (47 : UInt8) ∉ k) : methodTag? m ≠ some k :=
  fun e => h (head_mem (tag_head e))

theorem tagOf_of_some {m k : Bytes} (h : methodTag? m = some k) : tagOf m = k := by simp [tagOf, h]
theorem tagOf_of_none {m : Bytes} (h : methodTag? m = none) : tagOf m = [] := by simp [tagOf, h]

theorem tagOf_not_pathKey (m : Bytes) : ¬ PathKey (tagOf m) := by
  cases h : methodTag? m with
  | none => rw [tagOf_of_none h]; exact nil_not_pathKey
  | some k => rw [tagOf_of_some h]; exact tag_not_pathKey h

theorem tagOf_inj {m m' : Bytes} (h : (methodTag? m).isSome) (e : tagOf m = tagOf m') : m = m' := by
  cases hm : methodTag? m with
  | none => simp [hm] at h
  | some k =>
    cases hm' : methodTag? m' with
    | none =>
      rw [tagOf_of_some hm, tagOf_of_none hm'] at e
      have := tag_head hm; rw [e] at this; simp at this
    | some k' =>
      rw [tagOf_of_some hm, tagOf_of_some hm'] at e
      subst e
      exact Tie.Httpd.tags_inj _ (assocGet_mem hm) _ (assocGet_mem hm') rfl

theorem methodTag_isSome_iff (m : Bytes) : (methodTag? m).isSome ↔ m ∈ RouteList.knownMethods := by
  unfold methodTag?
  rw [assocGet_isSome_iff]
  constructor
  · intro h
    obtain ⟨e, he, rfl⟩ := List.mem_map.mp h
    exact Tie.Httpd.methods_known.1 e he
  · exact Tie.Httpd.methods_known.2 m

theorem prefix_snoc_of_ne {ks pk : List Bytes} {k tag : Bytes} (hne : k ≠ tag) :
    ks ++ [k] <+: pk ++ [tag] ↔ ks ++ [k] <+: pk := by
  rw [List.prefix_concat_iff, List.append_singleton_inj]
  exact or_iff_right fun h => hne h.2

theorem prefix_snoc_tag {ks pk : List Bytes} {k tag : Bytes} (hk : ¬ PathKey k) (hpk : ∀ x ∈ pk, PathKey x) :
    ks ++ [k] <+: pk ++ [tag] ↔ ks = pk ∧ k = tag := by
  rw [List.prefix_concat_iff, List.append_singleton_inj]
  exact or_iff_left fun h => hk (hpk k (h.subset (by simp)))

def GoodElems (es : List Elem) : Prop := ∀ s, Elem.lit s ∈ es → s ≠ [] ∧ (47 : UInt8) ∉ s

theorem splitSlash_slashfree (p : Bytes) : ∀ f ∈ RouteList.splitSlash p, (47 : UInt8) ∉ f := by
  induction p with
  | nil => exact List.forall_mem_cons.mpr ⟨nofun, nofun⟩
  | cons b s ih =>
    unfold RouteList.splitSlash
    split
    · exact List.forall_mem_cons.mpr ⟨nofun, ih⟩
    · next hb =>
      have hb' : ∀ r : Bytes, (47 : UInt8) ∉ r → (47 : UInt8) ∉ b :: r :=
        fun r hr hm => (List.mem_cons.mp hm).elim (fun e => hb e.symm) hr
      split
      · next h t hs =>
        rw [hs] at ih
        obtain ⟨ih1, ih2⟩ := List.forall_mem_cons.mp ih
        exact List.forall_mem_cons.mpr ⟨hb' h ih1, ih2⟩
      · exact List.forall_mem_cons.mpr ⟨hb' [] nofun, nofun⟩

theorem fragments_good (p : Bytes) : ∀ f ∈ fragments p, f ≠ [] ∧ (47 : UInt8) ∉ f := by
  intro f hf
  simp only [fragments, List.mem_filter, decide_eq_true_eq] at hf
  exact ⟨hf.2, splitSlash_slashfree p f hf.1⟩

theorem classify_lit {f s : Bytes} (h : classify f = .lit s) : s = f := by
  unfold classify at h
  split at h
  · cases h
  · split at h
    · cases h
    · cases h; rfl

theorem mem_cutStar {e : Elem} {es : List Elem} (h : e ∈ cutStar es) : e ∈ es := by
  induction es with
  | nil => simp [cutStar] at h
  | cons a r ih =>
    cases a with
    | star => simp [cutStar] at h; simp [h]
    | lit s => simp only [cutStar, List.mem_cons] at h ⊢; exact h.imp id ih
    | param n => simp only [cutStar, List.mem_cons] at h ⊢; exact h.imp id ih

theorem pattern_good (p : Bytes) : GoodElems (pattern p) := by
  intro s hs
  have h1 := mem_cutStar hs
  obtain ⟨f, hf, hc⟩ := List.mem_map.mp h1
  have := classify_lit hc
  rw [this]
  exact fragments_good p f hf

theorem keysOf_pathKey {es : List Elem} (h : GoodElems es) : ∀ k ∈ keysOf es, PathKey k := by
  intro k hk
  obtain ⟨e, he, rfl⟩ := List.mem_map.mp hk
  cases e with
  | lit s => exact Or.inr (Or.inr (h s he))
  | param n => exact pathKey_routeParam
  | star => exact pathKey_routeParamAny

/-- the validity check of the fragment loop, relative to the names seen so far -/
def validAcc : List Bytes → List Elem → Prop
  | _, [] => True
  | ns, .lit _ :: r => validAcc ns r
  | ns, .param n :: r => ¬ (n = [] ∨ n ∈ ns) ∧ validAcc (ns ++ [n]) r
  | ns, .star :: r => validAcc ns r

theorem validAcc_iff (es : List Elem) : ∀ ns, validAcc ns es ↔
    ([] ∉ paramNames es ∧ (paramNames es).Nodup ∧ ∀ n ∈ paramNames es, n ∉ ns) := by
  induction es with
  | nil => intro ns; simp [validAcc, paramNames]
  | cons e r ih =>
    intro ns
    cases e with
    | lit s => simp [validAcc, paramNames, ih]
    | star => simp [validAcc, paramNames, ih]
    | param n =>
      simp only [validAcc, paramNames, ih, List.mem_cons, List.nodup_cons, List.mem_append]
      grind

theorem validAcc_nil_iff (es : List Elem) : validAcc [] es ↔ RouteList.validPattern es := by
  rw [validAcc_iff]; simp [RouteList.validPattern]

theorem keysOf_cons (e : Elem) (es : List Elem) : keysOf (e :: es) = elemKey e :: keysOf es := rfl

theorem namesOf_lit (s : Bytes) (es : List Elem) : namesOf (.lit s :: es) = namesOf es := rfl
theorem namesOf_param (n : Bytes) (es : List Elem) : namesOf (.param n :: es) = n :: namesOf es := rfl
theorem namesOf_star (es : List Elem) : namesOf (.star :: es) = routeParamAny :: namesOf es := rfl

theorem classify_cases (f : Bytes) (hf : f ≠ []) :
    (f = [42] ∧ classify f = .star) ∨
    (∃ n, f = 58 :: n ∧ f ≠ [42] ∧ classify f = .param n) ∨
    (∃ c r, f = c :: r ∧ c ≠ 58 ∧ f ≠ [42] ∧ classify f = .lit f) := by
  by_cases h42 : f = [42]
  · exact Or.inl ⟨h42, by simp [classify, h42]⟩
  · cases f with
    | nil => exact absurd rfl hf
    | cons c r =>
      by_cases hc : c = 58
      · subst hc; exact Or.inr (Or.inl ⟨r, rfl, h42, by simp [classify, h42]⟩)
      · refine Or.inr (Or.inr ⟨c, r, rfl, hc, h42, ?_⟩)
        unfold classify
        simp only [h42, if_false]
        split
        · rename_i h; cases h; exact absurd rfl hc
        · rfl

/-- the fragment loop against the pattern `es` of its fragments: it walks the keys of `es` and collects its
    names when the check passes; otherwise it stops with the error, having walked path keys only -/
theorem parseFrags_spec (fs : List Bytes) : ∀ (ks ns : List Bytes), (∀ f ∈ fs, f ≠ [] ∧ (47 : UInt8) ∉ f) →
    (validAcc ns (cutStar (fs.map classify)) →
      parseFrags fs ks ns = ⟨ks ++ keysOf (cutStar (fs.map classify)), ns ++ namesOf (cutStar (fs.map classify)), true⟩) ∧
    (¬ validAcc ns (cutStar (fs.map classify)) →
      (parseFrags fs ks ns).ok = false ∧ ∀ k ∈ (parseFrags fs ks ns).keys, k ∈ ks ∨ PathKey k) := by
  induction fs with
  | nil => intro ks ns _; simp [parseFrags, cutStar, keysOf, namesOf, pnames, validAcc]
  | cons f fs ih =>
    intro ks ns hg
    have hf := hg f (by simp)
    have hg' : ∀ g ∈ fs, g ≠ [] ∧ (47 : UInt8) ∉ g := fun g h => hg g (by simp [h])
    -- the keys walked so far stay path keys when `k` is appended
    have snoc : ∀ {k : Bytes} {out : ParseOut}, PathKey k → (∀ x ∈ out.keys, x ∈ ks ++ [k] ∨ PathKey x) →
        ∀ x ∈ out.keys, x ∈ ks ∨ PathKey x := by
      intro k out hk h x hx
      rcases h x hx with h | h
      · simp only [List.mem_append, List.mem_singleton] at h
        exact h.imp id (fun e => by rw [e]; exact hk)
      · exact Or.inr h
    rcases classify_cases f hf.1 with ⟨h42, hc⟩ | ⟨n, hfn, h42, hc⟩ | ⟨c, r, hfc, hc58, h42, hc⟩
    · simp only [List.map_cons, hc, cutStar, validAcc]
      simp [parseFrags, h42, keysOf, elemKey, namesOf, pnames, nameKey]
    · subst hfn
      simp only [List.map_cons, hc, cutStar, validAcc, parseFrags, h42, if_false, keysOf_cons, elemKey, namesOf_param]
      by_cases hn : n = [] ∨ n ∈ ns
      · simp only [hn, not_true_eq_false, false_and, if_true, false_imp_iff, not_false_eq_true, true_imp_iff, true_and]
        exact fun k hk => Or.inl hk
      · obtain ⟨ih1, ih2⟩ := ih (ks ++ [routeParam]) (ns ++ [n]) hg'
        simp only [hn, not_false_eq_true, true_and, if_false]
        refine ⟨fun hv => by rw [ih1 hv]; simp, fun hv => ⟨(ih2 hv).1, snoc pathKey_routeParam (ih2 hv).2⟩⟩
    · have hstep : parseFrags (f :: fs) ks ns = parseFrags fs (ks ++ [f]) ns := by
        subst hfc
        simp only [parseFrags, h42, if_false]
        split
        · rename_i h; cases h; exact absurd rfl hc58
        · rfl
      obtain ⟨ih1, ih2⟩ := ih (ks ++ [f]) ns hg'
      simp only [List.map_cons, hc, cutStar, validAcc, hstep, keysOf_cons, elemKey, namesOf_lit]
      refine ⟨fun hv => by rw [ih1 hv]; simp, fun hv => ⟨(ih2 hv).1, snoc (Or.inr (Or.inr hf)) (ih2 hv).2⟩⟩

/-- a pattern as the code reads it: the first byte is never looked at -/
def slashed : Bytes → Bytes
  | [] => []
  | _ :: s => 47 :: s

theorem codeFragments_eq (p : Bytes) : fragsAcc (p.drop 1) [] = fragments (slashed p) := by
  cases p with
  | nil => simp [fragsAcc, slashed, fragments_empty]
  | cons x s => simp [slashed, fragsAcc_fragments]

abbrev Entry := Nat × Route

def fullKeys (r : Route) : List Bytes := keysOf (pattern r.pattern) ++ [tagOf r.method]

def payOf (e : Entry) : Option RouteId × List Bytes := (some e.1, namesOf (pattern e.2.pattern))

/-- the payload the route list prescribes for the node at `ks` -/
def lookupPay (S : List Entry) (ks : List Bytes) : Option RouteId × List Bytes :=
  match S.find? (fun e => fullKeys e.2 = ks) with
  | some e => payOf e
  | none => (none, [])

structure TInv (S : List Entry) (P : List (List Bytes)) (t : Node) : Prop where
  ex : ∀ ks, (descend t ks).isSome ↔ ks = [] ∨ (∃ e ∈ S, ks <+: fullKeys e.2) ∨ (∃ p ∈ P, ks <+: p)
  pay : ∀ ks n, descend t ks = some n → pay n = lookupPay S ks
  known : ∀ e ∈ S, (methodTag? e.2.method).isSome
  pk : ∀ p ∈ P, ∀ k ∈ p, PathKey k

theorem tinv_empty : TInv [] [] Node.empty := by
  refine ⟨?_, ?_, by simp, by simp⟩
  · intro ks; rw [descend_empty]; by_cases h : ks = [] <;> simp [h]
  · intro ks n h
    rw [descend_empty] at h
    by_cases hk : ks = []
    · simp [hk] at h; subst h; simp [lookupPay]
    · simp [hk] at h

theorem TInv.find_none {S P t} (h : TInv S P t) {ks : List Bytes} (hd : descend t ks = none) :
    S.find? (fun e => fullKeys e.2 = ks) = none := by
  rw [List.find?_eq_none]
  intro e he hk
  have : (descend t ks).isSome :=
    (h.ex ks).mpr (Or.inr (Or.inl ⟨e, he, by rw [of_decide_eq_true hk]; exact List.prefix_refl _⟩))
  rw [hd] at this
  cases this

theorem TInv.payAt_eq {S P t} (h : TInv S P t) (ks : List Bytes) : payAt t ks = lookupPay S ks := by
  unfold payAt
  cases hd : descend t ks with
  | some n => exact h.pay ks n hd
  | none => rw [lookupPay, h.find_none hd]

/-- `nextNodeOrNew` along `keys` (what a refused registration leaves behind) -/
theorem tinv_ensure {S P t} (h : TInv S P t) (keys : List Bytes) (hk : ∀ k ∈ keys, PathKey k) :
    TInv S (keys :: P) (modifyAt (fun n => n) t keys) := by
  refine ⟨?_, ?_, h.known, ?_⟩
  · intro ks
    rw [isSome_descend_modifyAt _ keepsNext_id, h.ex]
    simp only [List.mem_cons, exists_eq_or_imp]
    grind
  · intro ks n hn
    rw [← payAt_of_descend hn, payAt_modifyAt _ keepsNext_id, ← h.payAt_eq]
    by_cases hks : ks = keys
    · subst hks; simp only [if_true, payAt]; cases descend t ks <;> rfl
    · simp only [hks, if_false]
  · intro p hp k hkp
    rcases List.mem_cons.mp hp with rfl | hp
    · exact hk k hkp
    · exact h.pk p hp k hkp

theorem lookupPay_append (S : List Entry) (e : Entry) (ks : List Bytes) :
    lookupPay (S ++ [e]) ks =
      if (S.find? (fun e => fullKeys e.2 = ks)).isSome then lookupPay S ks
      else if fullKeys e.2 = ks then payOf e else (none, []) := by
  unfold lookupPay
  rw [List.find?_append]
  cases hf : S.find? (fun e => fullKeys e.2 = ks) with
  | some e' => simp
  | none =>
    by_cases he : fullKeys e.2 = ks <;> simp [List.find?, he]

theorem tinv_register {S P t} (h : TInv S P t) (i : Nat) (r : Route)
    (hknown : (methodTag? r.method).isSome) (hfresh : descend t (fullKeys r) = none) :
    TInv (S ++ [(i, r)]) P (modifyAt (setPayload i (namesOf (pattern r.pattern))) t (fullKeys r)) := by
  have hnone := h.find_none hfresh
  refine ⟨?_, ?_, ?_, h.pk⟩
  · intro ks
    rw [isSome_descend_modifyAt _ (keepsNext_setPayload _ _), h.ex]
    simp only [List.mem_append, List.mem_singleton]
    grind
  · intro ks n hn
    rw [← payAt_of_descend hn, payAt_modifyAt _ (keepsNext_setPayload _ _), lookupPay_append]
    by_cases hks : ks = fullKeys r
    · subst hks
      simp [hnone, setPayload, Router.pay, payOf]
    · have hne : ¬ fullKeys r = ks := fun e => hks e.symm
      simp only [hks, hne, if_false, h.payAt_eq ks]
      unfold lookupPay
      cases S.find? (fun e => fullKeys e.2 = ks) <;> simp
  · intro e he
    rcases List.mem_append.mp he with he | he
    · exact h.known e he
    · simp only [List.mem_singleton] at he; subst he; exact hknown

/-- what the code decides for `Handle(p, m)`, in terms of the routes registered so far -/
def regResult (S : List Entry) (r : Route) : Except RegErr Nat :=
  if methodTag? r.method = none then .error .invalidMethod
  else if ¬ RouteList.validPattern (pattern r.pattern) then .error .invalidFragment
  else if ∃ e ∈ S, fullKeys e.2 = fullKeys r then .error .duplicate
  else .ok (namesOf (pattern r.pattern)).length

theorem TInv.tag_iff {S P t} (h : TInv S P t) (ks : List Bytes) (m : Bytes) :
    (descend t (ks ++ [tagOf m])).isSome ↔ ∃ e ∈ S, fullKeys e.2 = ks ++ [tagOf m] := by
  rw [h.ex]
  have hnt := tagOf_not_pathKey m
  constructor
  · rintro (h0 | ⟨e, he, hp⟩ | ⟨p, hp, hpre⟩)
    · simp at h0
    · have := (prefix_snoc_tag hnt (keysOf_pathKey (pattern_good e.2.pattern))).mp hp
      exact ⟨e, he, by unfold fullKeys; rw [this.1, this.2]⟩
    · exact absurd (h.pk p hp _ (hpre.subset (by simp))) hnt
  · rintro ⟨e, he, heq⟩
    exact Or.inr (Or.inl ⟨e, he, heq ▸ List.prefix_refl _⟩)

theorem parseRoute_spec {S P t} (h : TInv S P t) (p m : Bytes) (i : Nat) :
    ∃ t', parseRoute t p m i = .ok ⟨t', regResult S ⟨slashed p, m⟩⟩ ∧
      (match regResult S ⟨slashed p, m⟩ with
       | .ok _ => TInv (S ++ [(i, ⟨slashed p, m⟩)]) P t'
       | .error _ => ∃ P', TInv S P' t') := by
  unfold parseRoute regResult
  cases hm : methodTag? m with
  | none => exact ⟨t, by simp, by simp; exact ⟨P, h⟩⟩
  | some tag =>
    have htag : tagOf m = tag := tagOf_of_some hm
    have hpf := parseFrags_spec (fragments (slashed p)) [] [] (fragments_good _)
    rw [validAcc_nil_iff, show cutStar ((fragments (slashed p)).map classify) = pattern (slashed p) from rfl] at hpf
    simp only [parseLoop_start, codeFragments_eq, bind, Except.bind, reduceCtorEq, if_false]
    by_cases hv : RouteList.validPattern (pattern (slashed p))
    · have hpf := hpf.1 hv
      simp only [List.nil_append] at hpf
      simp only [hpf, Bool.not_true, Bool.false_eq_true, if_false, hv, not_true_eq_false]
      have hpk := keysOf_pathKey (pattern_good (slashed p))
      have hens := tinv_ensure h _ hpk
      obtain ⟨n0, hn0⟩ := Option.isSome_iff_exists.mp
        ((isSome_descend_modifyAt _ keepsNext_id t _ (keysOf (pattern (slashed p)))).mpr (Or.inr (List.prefix_refl _)))
      have hiff : (n0.child tag).isSome ↔ ∃ e ∈ S, fullKeys e.2 = fullKeys ⟨slashed p, m⟩ := by
        rw [child_eq_descend hn0, ← htag]; exact hens.tag_iff _ m
      simp only [hn0, Option.getD_some]
      cases hc : n0.child tag with
      | some c =>
        have hex := hiff.mp (by simp [hc])
        simp only [hex, if_true]
        exact ⟨_, rfl, _, hens⟩
      | none =>
        have hex : ¬ ∃ e ∈ S, fullKeys e.2 = fullKeys ⟨slashed p, m⟩ := fun hx => by
          have := hiff.mpr hx; simp [hc] at this
        simp only [hex, if_false]
        refine ⟨_, rfl, ?_⟩
        have hfresh : descend t (fullKeys ⟨slashed p, m⟩) = none :=
          Option.not_isSome_iff_eq_none.mp fun hs => hex ((h.tag_iff _ m).mp hs)
        have := tinv_register h i ⟨slashed p, m⟩ (by simp [hm]) hfresh
        simpa [fullKeys, htag] using this
    · obtain ⟨hok, hkeys⟩ := hpf.2 hv
      simp only [hok, Bool.not_false, if_true, hv, not_false_eq_true]
      exact ⟨_, rfl, _, tinv_ensure h _ fun k hk => (hkeys k hk).resolve_left (by simp)⟩

end Glb.Router
