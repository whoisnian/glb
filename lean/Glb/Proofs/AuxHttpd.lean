/- GetClientIP: the `strings.IndexByte` + slice of the X-Forwarded-For branch is `upTo comma`. -/
import Glb.Model.AuxHttpd
import Glb.Proofs.AuxNetutil

namespace Glb.Aux.Httpd
open Glb Glb.Aux.Net

theorem take_indexByte (ip : Bytes) (c : UInt8) (i : Nat) (h : indexByte ip c = some i) :
    i ≤ ip.length ∧ ip.take i = upTo c ip := by
  fun_induction indexByte ip c generalizing i with
  | case1 => cases h
  | case2 x rest => cases h; simp [upTo]
  | case3 x rest c hx ih =>
    obtain ⟨j, hj, rfl⟩ := Option.map_eq_some_iff.mp h
    simpa [upTo, hx] using ih j hj

theorem indexByte_none (ip : Bytes) (c : UInt8) (h : indexByte ip c = none) : upTo c ip = ip := by
  fun_induction indexByte ip c <;> simp_all [upTo]

/-- the X-Forwarded-For branch: everything before the first comma -/
theorem forwarded_first (ip : Bytes) :
    (match indexByte ip comma with
     | some i => slice? ip 0 i
     | none => (pure ip : Except GoPanic Bytes)) = .ok (upTo comma ip) := by
  cases h : indexByte ip comma with
  | some i =>
    obtain ⟨h1, h2⟩ := take_indexByte ip comma i h
    exact (Go.slice?_to ip i h1).trans (congrArg _ h2)
  | none => rw [indexByte_none ip comma h]; rfl

end Glb.Aux.Httpd
