/-
  Helper lemmas for C18: how path resolution reacts to the three ways CopyFile/MoveFile change
  the name space (create an entry at a missing name, move an entry, remove an entry), and
  closed forms of `copyFile` and `moveFile`.
-/
import Glb.Model.Files

namespace Glb.Files
open Glb.Generated

theorem resolveN_entry (e : Name → Entry) (fuel : Nat) (n : Name) :
    match resolveN e fuel n with
    | .file x i => e x = .file i
    | .missing m p => e m = .missing p
    | _ => True := by
  induction fuel generalizing n with
  | zero => trivial
  | succ f ih =>
    unfold resolveN
    cases he : e n with
    | file i => exact he
    | missing p => exact he
    | dir => trivial
    | symlink t => exact ih t

/-- `hu` is how "the resolution of `n` never passes through `r`" is said: if it did, `r` would
    resolve to the same `.file y k` with the fuel left at that point. -/
theorem resolveN_upd_unreached (e : Name → Entry) (r : Name) (v : Entry) (fuel : Nat)
    (n y : Name) (k : Ino) (h : resolveN e fuel n = .file y k)
    (hu : ∀ f', f' ≤ fuel → resolveN e f' r ≠ .file y k) :
    resolveN (upd e r v) fuel n = .file y k := by
  induction fuel generalizing n with
  | zero => exact h
  | succ f ih =>
    by_cases hn : n = r
    · subst hn; exact absurd h (hu _ (Nat.le_refl _))
    · simp only [resolveN, upd, hn, if_false] at h ⊢
      cases he : e n with
      | symlink t =>
        rw [he] at h
        exact ih t h fun f' hf' => hu f' (Nat.le_succ_of_le hf')
      | _ => rw [he] at h; exact h

/-- changing an entry that was missing does not disturb names that resolved to a file: their
    resolution cannot pass through the missing name -/
theorem resolveN_upd_missing_file (e : Name → Entry) (m : Name) (p : PState) (v : Entry)
    (hm : e m = .missing p) (fuel : Nat) (n x : Name) (i : Ino)
    (h : resolveN e fuel n = .file x i) : resolveN (upd e m v) fuel n = .file x i :=
  resolveN_upd_unreached e m v fuel n x i h fun f' _ => by
    cases f' <;> simp [resolveN, hm]

theorem resolveN_upd_missing_target (e : Name → Entry) (m : Name) (p : PState) (j : Ino)
    (fuel : Nat) (n : Name) (h : resolveN e fuel n = .missing m p) :
    resolveN (upd e m (.file j)) fuel n = .file m j := by
  induction fuel generalizing n with
  | zero => simp [resolveN] at h
  | succ f ih =>
    simp only [resolveN] at h ⊢
    by_cases hn : n = m
    · subst hn; simp [upd]
    · simp only [upd, hn, if_false]
      split at h <;> simp_all

theorem resolveN_mono (e : Name → Entry) (f : Nat) (n : Name) (r : Res)
    (h : resolveN e f n = r) (hr : r ≠ .loop) (g : Nat) (hg : f ≤ g) : resolveN e g n = r := by
  induction f generalizing n g with
  | zero => simp [resolveN] at h; exact absurd h.symm hr
  | succ f ih =>
    cases g with
    | zero => omega
    | succ g =>
      simp only [resolveN] at h ⊢
      split <;> simp_all

/-- removing (or replacing) a symbolic link `r → t` does not disturb what its target `t`
    resolves to: the resolution of `t` cannot pass through `r` again without looping -/
theorem resolveN_upd_symlink_source (e : Name → Entry) (r t : Name) (v : Entry)
    (hr : e r = .symlink t) (x : Name) (i : Ino) (g : Nat)
    (h : resolveN e g t = .file x i) : resolveN (upd e r v) g t = .file x i := by
  induction g using Nat.strongRecOn with
  | _ g ih =>
    by_cases hex : ∃ f', f' ≤ g ∧ resolveN e f' r = .file x i
    · obtain ⟨f', hle, hf'⟩ := hex
      cases f' with
      | zero => simp [resolveN] at hf'
      | succ f'' =>
        simp only [resolveN, hr] at hf'
        have := ih f'' (by omega) hf'
        exact resolveN_mono _ _ _ _ this (by simp) g (by omega)
    · exact resolveN_upd_unreached e r v g t x i h (fun f' hle hf' => hex ⟨f', hle, hf'⟩)

theorem content_eq_some {fs : FS} {n : Name} {b : Bytes} (h : content fs n = some b) :
    ∃ x i, resolve fs n = .file x i ∧ b = fs.data i := by
  unfold content at h
  split at h <;> cases h
  exact ⟨_, _, ‹_›, rfl⟩

/-- `os.Remove` succeeds on a name that resolves to a file -/
theorem unlink_of_resolves {fs : FS} {n x : Name} {i : Ino} (h : resolve fs n = .file x i) :
    unlink fs n = .ok { fs with entry := upd fs.entry n (.missing .ok) } := by
  -- a name resolves to a file only through an entry that is a file or a symlink; `unlink` removes either
  unfold resolve resolveN at h
  unfold unlink
  split at h <;> simp_all

/-- `copyFile` on a source that is a regular file: the guard, then create and copy -/
theorem copyFile_of_src {fs : FS} {src x : Name} {i : Ino} (hsrc : resolve fs src = .file x i)
    (dst : Name) :
    copyFile fs src dst =
      if .ok (.ino i) = stat fs dst then (fs, .error .sameFile) else
      match creat fs dst with
      | .ok (fs', j) => ({ fs' with data := upd fs'.data j (fs'.data i) }, .ok (fs'.data i).length)
      | .error e => (fs, .error e) := by
  by_cases hid : .ok (.ino i) = stat fs dst
  · simp [copyFile, runCopy, copyProg, List.foldl, copyStep, openRead, hsrc, fstat, ← hid]
  · cases hst : stat fs dst <;> cases hcr : creat fs dst <;>
      simp_all [copyFile, runCopy, copyProg, List.foldl, copyStep, openRead, fstat, copyData]

/-- what a successful copy leaves behind: the source as it was, its bytes under `dst` in another
    inode -/
def CopyOk (fs fs' : FS) (src dst x : Name) (i : Ino) (n : Nat) : Prop :=
  n = (fs.data i).length ∧ resolve fs' src = .file x i ∧ fs'.data i = fs.data i ∧
  ∃ y k, k ≠ i ∧ resolve fs' dst = .file y k ∧ fs'.data k = fs.data i

theorem copyFile_spec (fs : FS) (src dst : Name) (x : Name) (i : Ino) (hf : Fresh fs)
    (hsrc : resolve fs src = .file x i) :
    match copyFile fs src dst with
    | (fs', .ok n) => CopyOk fs fs' src dst x i n
    | (fs', .error _) => fs' = fs := by
  rw [copyFile_of_src hsrc]
  cases hdst : resolve fs dst with
  | file y k =>
    by_cases hik : i = k
    · simp [stat, hdst, hik]
    · simp only [stat, creat, hdst, Except.ok.injEq, Ident.ino.injEq, hik, if_false]
      exact ⟨by simp [upd, hik], hsrc, by simp [upd, hik], y, k, Ne.symm hik, hdst, by simp [upd, hik]⟩
  | missing m p =>
    cases p with
    | ok =>
      have hm := resolveN_entry fs.entry (maxLinks + 1) dst
      have hx := resolveN_entry fs.entry (maxLinks + 1) src
      simp only [resolve] at hsrc hdst
      rw [hdst] at hm
      rw [hsrc] at hx
      have hne : i ≠ fs.next := Nat.ne_of_lt (hf x i hx)
      simp only [stat, creat, resolve, hdst, reduceCtorEq, if_false]
      exact ⟨by simp [upd, hne], resolveN_upd_missing_file fs.entry m .ok _ hm _ _ _ _ hsrc,
        by simp [upd, hne], m, fs.next, hne.symm,
        resolveN_upd_missing_target fs.entry m .ok fs.next _ _ hdst, by simp [upd, hne]⟩
    | _ => simp [stat, creat, hdst, resErr]
  | _ => simp [stat, creat, hdst, resErr]

/-- `os.Rename` of a name that does not exist fails, whatever the destination is -/
theorem rename_missing {fs : FS} {a : Name} {p : PState} (h : fs.entry a = .missing p) (b : Name) :
    ∃ e, rename fs a b = .error e := by
  fun_cases rename fs a b <;> simp_all

theorem rename_file_ok (fs fs1 : FS) (src dst : Name) (i : Ino) (hsrc : fs.entry src = .file i)
    (hr : rename fs src dst = .ok fs1) : content fs1 dst = some (fs.data i) := by
  unfold rename at hr
  rw [hsrc] at hr
  by_cases hne : src = dst
  · subst hne
    simp [hsrc] at hr
    subst hr
    simp [content, resolve, resolveN, hsrc]
  · have hmv : content (moveEntry fs src dst) dst = some (fs.data i) := by
      simp [content, resolve, resolveN, moveEntry, upd, hsrc, Ne.symm hne]
    by_cases hdev : fs.dev src = fs.dev dst
    · cases hd : fs.entry dst with
      | file k =>
        by_cases h : i = k <;> simp [hd, hdev, hne, h] at hr <;> subst hr
        · simp [content, resolve, resolveN, hd, h]
        · exact hmv
      | dir => simp [hd, hdev] at hr
      | symlink t => simp [hd, hdev, hne] at hr; exact hr ▸ hmv
      | missing p => cases p <;> simp [hd, hdev, hne] at hr; exact hr ▸ hmv
    · cases hd : fs.entry dst with
      | missing p => cases p <;> simp [hd, hdev] at hr
      | _ => simp [hd, hdev] at hr

theorem rename_symlink_ok (fs fs1 : FS) (src dst t : Name) (hsrc : fs.entry src = .symlink t)
    (hne : src ≠ dst) (hr : rename fs src dst = .ok fs1) : fs1 = moveEntry fs src dst := by
  unfold rename at hr
  rw [hsrc] at hr
  by_cases hdev : fs.dev src = fs.dev dst
  · cases hd : fs.entry dst with
    | missing p => cases p <;> simp [hd, hdev, hne] at hr <;> exact hr.symm
    | dir => simp [hd, hdev] at hr
    | file k => simp [hd, hdev, hne] at hr; exact hr.symm
    | symlink t' => simp [hd, hdev, hne] at hr; exact hr.symm
  · cases hd : fs.entry dst with
    | missing p => cases p <;> simp [hd, hdev] at hr
    | _ => simp [hd, hdev] at hr

theorem rename_symlink_content (fs fs1 : FS) (src dst t x : Name) (i : Ino)
    (hsrc : fs.entry src = .symlink t) (hres : resolve fs src = .file x i)
    (hnd : ∀ y, resolve fs dst ≠ .file y i)
    (hr : rename fs src dst = .ok fs1) : content fs1 dst = some (fs.data i) := by
  have hne : src ≠ dst := by
    intro h; subst h; exact hnd x hres
  have := rename_symlink_ok fs fs1 src dst t hsrc hne hr
  subst this
  simp only [resolve] at hres hnd
  -- t resolves to inode i with one link less of fuel
  have ht : resolveN fs.entry maxLinks t = .file x i := by
    simpa [resolveN, hsrc] using hres
  -- step 1: put the link at dst — dst is not on t's chain (it would resolve to inode i)
  have h1 : resolveN (upd fs.entry dst (.symlink t)) maxLinks t = .file x i := by
    apply resolveN_upd_unreached _ _ _ _ _ _ _ ht
    intro f' hf' h
    exact hnd x (resolveN_mono _ _ _ _ h (by simp) _ (by omega))
  -- step 2: remove the link at src
  have h2 := resolveN_upd_symlink_source (upd fs.entry dst (.symlink t)) src t (.missing .ok)
    (by simp [upd, hne, hsrc]) x i maxLinks h1
  have hne' : dst ≠ src := fun h => hne h.symm
  simp [content, resolve, resolveN, moveEntry, upd, hne', hsrc]
  rw [h2]

/-- `MoveFile` behind its same-file guard, which is all of `MoveFile` before cf1ff93
    (`moveFilePinned`): `os.Rename`; when that fails `CopyFile`, and when that succeeds
    `os.Remove(src)`. -/
def renameElseCopy (fs : FS) (src dst : Name) : FS × Except Err Unit :=
  match rename fs src dst with
  | .ok fs1 => (fs1, .ok ())
  | .error _ =>
    match copyFile fs src dst with
    | (fs1, .error e) => (fs1, .error e)
    | (fs1, .ok _) =>
      match unlink fs1 src with
      | .ok fs2 => (fs2, .ok ())
      | .error e => (fs1, .error e)

/-- Stated for any `srcId`, `dstId`, `err` in the start state, so that it also applies after the
    guard statements of `moveProg` have run (`moveFile_guard`). -/
theorem movePinned_fold (fs : FS) (src dst : Name) (sid did : Option Ident) (e0 : Option Err) :
    let st := pinnedMoveProg.foldl (moveStep copyFile src dst)
      { fs := fs, srcId := sid, dstId := did, err := e0 }
    (st.fs, st.ret.getD (.error .other)) = renameElseCopy fs src dst := by
  unfold renameElseCopy
  cases hr : rename fs src dst with
  | ok fs1 => simp [pinnedMoveProg, List.foldl, moveStep, hr]
  | error e =>
    rcases hc : copyFile fs src dst with ⟨fs1, _ | n⟩
    · simp [pinnedMoveProg, List.foldl, moveStep, hr, hc]
    · cases hu : unlink fs1 src <;> simp [pinnedMoveProg, List.foldl, moveStep, hr, hc, hu]

theorem moveFilePinned_eq (fs : FS) (src dst : Name) :
    moveFilePinned fs src dst = renameElseCopy fs src dst :=
  movePinned_fold fs src dst none none none

/-- whenever rename fails, for a source reached through any chain of symlinks: copy, then remove
    leaves the source's bytes under `dst`, or fails and leaves the file system unchanged -/
theorem movePinned_fallback (fs : FS) (src dst x : Name) (i : Ino) (e : Err) (hf : Fresh fs)
    (hsrc : resolve fs src = .file x i) (hr : rename fs src dst = .error e) :
    match renameElseCopy fs src dst with
    | (fs', .ok _) => content fs' dst = some (fs.data i)
    | (fs', .error _) => fs' = fs := by
  have hspec := copyFile_spec fs src dst x i hf hsrc
  rw [renameElseCopy, hr]
  rcases hc : copyFile fs src dst with ⟨fs1, e2 | n⟩ <;> rw [hc] at hspec
  · exact hspec
  · obtain ⟨_, hsrc1, _, y, k, hki, hy, hdk⟩ := hspec
    -- dst's chain never reaches the name `src`: it would end in inode i, not k
    have hunreached : ∀ f', f' ≤ maxLinks + 1 → resolveN fs1.entry f' src ≠ .file y k := by
      intro f' hf' h
      have := resolveN_mono fs1.entry f' src _ h (by simp) (maxLinks + 1) hf'
      rw [show resolveN fs1.entry (maxLinks + 1) src = _ from hsrc1] at this
      exact hki (Res.file.inj this).2.symm
    have hdst2 := resolveN_upd_unreached fs1.entry src (.missing .ok) _ _ _ _ hy hunreached
    simp [unlink_of_resolves hsrc1, content, resolve, hdst2, hdk]

/-- `moveFile` is: same-file check on `stat src`/`stat dst`, otherwise the unguarded order -/
theorem moveFile_guard (fs : FS) (src dst : Name) :
    moveFile fs src dst =
      match stat fs src, stat fs dst with
      | .ok a, .ok b => if a = b then (fs, .error .sameFile) else renameElseCopy fs src dst
      | _, _ => renameElseCopy fs src dst := by
  have key : ∀ st : MSt, moveProg.foldl (moveStep copyFile src dst) st =
      pinnedMoveProg.foldl (moveStep copyFile src dst)
        ([FsEv.statSrc, .statDst, .guardSameFile].foldl (moveStep copyFile src dst) st) :=
    fun _ => rfl
  simp only [moveFile, runMove, key]
  cases hs : stat fs src <;> cases hd : stat fs dst <;> simp only [List.foldl, moveStep, hs, hd]
  case ok.ok =>
    split
    · simp [pinnedMoveProg, List.foldl, moveStep]
    · exact movePinned_fold fs src dst _ _ _
  all_goals exact movePinned_fold fs src dst _ _ _

/-- `moveFile_guard` on a source that resolves to a regular file: `stat src` gives its inode, so
    the guard is a test on `stat dst` alone -/
theorem moveFile_of_src {fs : FS} {src x : Name} {i : Ino} (hsrc : resolve fs src = .file x i)
    (dst : Name) :
    moveFile fs src dst =
      if stat fs dst = .ok (.ino i) then (fs, .error .sameFile) else renameElseCopy fs src dst := by
  rw [moveFile_guard]
  cases hd : stat fs dst <;> simp [stat, hsrc, eq_comm]

end Glb.Files
