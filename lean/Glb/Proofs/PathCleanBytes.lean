/-
  The byte-level transcription of Go's `path.Clean` (`Model/PathCleanBytes.lean`) computes the same
  function as the segment model (`Model/PathClean.lean`).

  One loop iteration (`body`) reads one path element `e` (up to the next '/' or the end) and then
  acts on it (`emit`); `body_slash` and `body_elem` say so.  Invariant of the loop (`Rel`): with
  `st` the (reversed) segment stack of the segment model,
    * `st = segs ++ ".."^k`, all `segs` real names, `k = 0` when rooted   (`PathClean.WFr`);
    * `out` (reversed buffer) is the rendering `outOf rooted st` of the stack: the leading '/' of a
      rooted path, then the elements separated by single slashes;
    * `dotdot` is the length of the rendering of the `".."^k` prefix alone (1 = the leading slash
      when rooted, 0 or `3k-1` otherwise).
  `emit` on `e` maps the invariant for `st` to the invariant for `step rooted st e` (`emit_rel`).
-/
import Glb.Model.PathCleanBytes
import Glb.Proofs.PathClean

namespace Glb.PathCleanBytes
open Glb.PathClean Glb.PathNF

theorem atEnd_cases {rest : Bytes} (h : atEnd rest = true) : rest = [] ∨ ∃ t, rest = slash :: t := by
  cases rest with
  | nil => exact .inl rfl
  | cons c t => exact .inr ⟨t, by simpa [atEnd] using h⟩

theorem elem_rest (p : Bytes) : ∃ e rest, p = e ++ rest ∧ slash ∉ e ∧ atEnd rest = true := by
  induction p with
  | nil => exact ⟨[], [], rfl, List.not_mem_nil, rfl⟩
  | cons c t ih =>
    by_cases hc : c = slash
    · exact ⟨[], c :: t, rfl, List.not_mem_nil, by simp [atEnd, hc]⟩
    · obtain ⟨e, rest, rfl, he, hr⟩ := ih
      exact ⟨c :: e, rest, rfl, by simp [he, Ne.symm hc], hr⟩

theorem atEnd_append (e rest : Bytes) (he : slash ∉ e) (hr : atEnd rest = true) :
    atEnd (e ++ rest) = true ↔ e = [] := by
  cases e with
  | nil => simp [hr]
  | cons c e => simp [atEnd, Ne.symm (List.ne_of_not_mem_cons he)]

theorem copyElem_append (e rest out : Bytes) (he : slash ∉ e) (hr : atEnd rest = true) :
    copyElem (e ++ rest) out = (rest, e.reverse ++ out) := by
  induction e generalizing out with
  | nil => rcases atEnd_cases hr with rfl | ⟨t, rfl⟩ <;> simp [copyElem]
  | cons c e ih =>
    simp [copyElem, Ne.symm (List.ne_of_not_mem_cons he), ih _ (List.not_mem_of_not_mem_cons he)]

theorem foldl_split_elem (r : Bool) (e rest : Bytes) (st : List Bytes) (he : slash ∉ e)
    (hr : atEnd rest = true) :
    (split (e ++ rest)).foldl (step r) st = (split rest).foldl (step r) (step r st e) := by
  rcases atEnd_cases hr with rfl | ⟨t, rfl⟩
  · simp [split_noslash e he, split, step_empty]
  · simp [split_append, split_noslash e he, split_cons_slash, step_empty]

theorem dotB_ne_slash : dotB ≠ slash := by decide
theorem dot_eq : [dotB] = dot := rfl
theorem dotdot_eq : [dotB, dotB] = dotdot := rfl

/-- The switch of the Go loop on `(out, dotdot)`, its cases named by the element `s` just read
    (`s` is not empty): "." is skipped, ".." backtracks, is appended or is dropped, a name is
    appended behind a separating slash. -/
def emit (r : Bool) (s out : Bytes) (dd : Nat) : Bytes × Nat :=
  if s = dot then (out, dd)
  else if s = dotdot then
    if out.length > dd then (backtrack dd out, dd)
    else if r then (out, dd)
    else
      let out2 := dotB :: dotB :: (if out.length > 0 then slash :: out else out)
      (out2, out2.length)
  else
    (s.reverse ++
      (if (r && out.length != 1) || (!r && out.length != 0) then slash :: out else out), dd)

theorem body_slash (r : Bool) (t out : Bytes) (dd : Nat) : body r slash t out dd = (t, out, dd) := by
  simp [body]

/-- `case path[r] == '.' && (r+1 == n || path[r+1] == '/')` recognises the element "." -/
theorem dot_cond (c : UInt8) (e rest : Bytes) (he : slash ∉ e) (hr : atEnd rest = true) :
    (c = dotB ∧ atEnd (e ++ rest) = true) ↔ c :: e = dot := by
  simp [atEnd_append e rest he hr, ← dot_eq]

/-- `case path[r] == '.' && path[r+1] == '.' && (r+2 == n || path[r+2] == '/')` recognises ".." -/
theorem dotdot_cond (c : UInt8) (e rest : Bytes) (he : slash ∉ e) (hr : atEnd rest = true) :
    (c = dotB ∧ (e ++ rest).head? = some dotB ∧ atEnd (e ++ rest).tail = true) ↔
      c :: e = dotdot := by
  cases e with
  | nil => rcases atEnd_cases hr with rfl | ⟨t, rfl⟩ <;> simp [← dotdot_eq, dotB_ne_slash.symm]
  | cons c2 e => simp [atEnd_append e rest (List.not_mem_of_not_mem_cons he) hr, ← dotdot_eq]

theorem body_elem (r : Bool) (c : UInt8) (e rest out : Bytes) (dd : Nat) (hc : c ≠ slash)
    (he : slash ∉ e) (hr : atEnd rest = true) :
    body r c (e ++ rest) out dd = (rest, emit r (c :: e) out dd) := by
  unfold body emit
  simp only [hc, if_false, dot_cond c e rest he hr, dotdot_cond c e rest he hr]
  by_cases hd : c :: e = dot
  · rw [if_pos hd, if_pos hd, (List.cons.inj hd).2]
    rfl
  · rw [if_neg hd, if_neg hd]
    by_cases hdd : c :: e = dotdot
    · rw [if_pos hdd, if_pos hdd, (List.cons.inj hdd).2, apply_ite (Prod.mk rest),
        apply_ite (Prod.mk rest)]
      cases r <;> rfl
    · have := copyElem_append (c :: e) rest
      rw [if_neg hdd, if_neg hdd, ← List.cons_append,
        this _ (List.not_mem_cons_of_ne_of_not_mem (Ne.symm hc) he) hr]

/-- every iteration consumes at least one byte (`r` increases) -/
theorem body_length (r : Bool) (c : UInt8) (t out : Bytes) (dd : Nat) :
    (body r c t out dd).1.length ≤ t.length := by
  by_cases hc : c = slash
  · rw [hc, body_slash]
    exact Nat.le_refl _
  · obtain ⟨e, rest, rfl, he, hr⟩ := elem_rest t
    rw [body_elem r c e rest out dd hc he hr, List.length_append]
    exact Nat.le_add_left _ _

/-- the buffer before the first element: the leading '/' of a rooted path -/
def baseOut (r : Bool) : Bytes := if r then [slash] else []

/-- reversed buffer content for the reversed stack `st` (top first) -/
def outOf (r : Bool) : List Bytes → Bytes
  | [] => baseOut r
  | [s] => s.reverse ++ baseOut r
  | s :: t :: rest => s.reverse ++ slash :: outOf r (t :: rest)

theorem outOf_single (r : Bool) (s : Bytes) : outOf r [s] = s.reverse ++ baseOut r := rfl

theorem outOf_cons (r : Bool) (s : Bytes) (st : List Bytes) :
    outOf r (s :: st) = s.reverse ++ (if st ≠ [] then slash :: outOf r st else outOf r st) := by
  cases st <;> rfl

theorem outOf_length_cons (r : Bool) (s : Bytes) (st : List Bytes) :
    (outOf r st).length + s.length ≤ (outOf r (s :: st)).length := by
  rw [outOf_cons]
  split <;> simp <;> omega

theorem outOf_length_append (r : Bool) (a b : List Bytes) :
    (outOf r b).length ≤ (outOf r (a ++ b)).length := by
  induction a with
  | nil => exact Nat.le_refl _
  | cons s a ih => exact Nat.le_trans ih (Nat.le_trans (Nat.le_add_right _ _) (outOf_length_cons r s _))

theorem baseOut_length_le (r : Bool) (st : List Bytes) :
    (baseOut r).length ≤ (outOf r st).length := by
  have := outOf_length_append r st []
  rwa [List.append_nil] at this

theorem outOf_length_eq_base (r : Bool) (st : List Bytes) (h : ∀ s ∈ st, s ≠ []) :
    (outOf r st).length = (baseOut r).length ↔ st = [] := by
  constructor
  · intro hl
    cases st with
    | nil => rfl
    | cons s st =>
      have h1 := outOf_length_cons r s st
      have h2 := baseOut_length_le r st
      have h3 : 0 < s.length := List.length_pos_iff.mpr (h s List.mem_cons_self)
      omega
  · intro e; subst e; rfl

theorem outOf_reverse (r : Bool) (st : List Bytes) :
    (outOf r st).reverse = (baseOut r).reverse ++ unsplit st.reverse := by
  induction st with
  | nil => simp [outOf, unsplit]
  | cons s st ih =>
    rw [outOf_cons]
    by_cases he : st = []
    · subst he
      simp [outOf, unsplit]
    · simp [he, ih, unsplit_append_single]

/-- `outOf_cons` with Go's "add slash if needed" test in place of `st ≠ []` (the form `emit` has):
    the test fires exactly when the buffer is longer than `baseOut r`, i.e. an element has been
    written already -/
theorem outOf_push (r : Bool) (s : Bytes) (st : List Bytes) (h : ∀ x ∈ st, x ≠ []) :
    outOf r (s :: st) = s.reverse ++
      (if (r && (outOf r st).length != 1) || (!r && (outOf r st).length != 0) then
        slash :: outOf r st else outOf r st) := by
  have hb := outOf_length_eq_base r st h
  rw [outOf_cons]
  cases r <;> simp [← hb, baseOut]

/-- a relative path's ".." is written like a name, but behind Go's test `out.w > 0` -/
theorem outOf_push_dotdot (st : List Bytes) (h : ∀ x ∈ st, x ≠ []) :
    outOf false (dotdot :: st) = dotB :: dotB ::
      (if (outOf false st).length > 0 then slash :: outOf false st else outOf false st) := by
  have hb := outOf_length_eq_base false st h
  rw [outOf_cons]
  simp [← hb, baseOut, Nat.pos_iff_ne_zero, dotdot, dotB]

theorem backtrack_elem (dd : Nat) (u X : Bytes) (hu : u ≠ []) (hs : slash ∉ u)
    (hX : dd ≤ X.length) : backtrack dd (u ++ X) = if dd < X.length then backtrack dd X else X := by
  induction u with
  | nil => exact absurd rfl hu
  | cons b u ih =>
    have hb : b ≠ slash := Ne.symm (List.ne_of_not_mem_cons hs)
    cases u with
    | nil => simp [backtrack, hb]
    | cons b' u' =>
      rw [List.cons_append, backtrack, if_pos ⟨by simp; omega, hb⟩]
      exact ih (List.cons_ne_nil b' u') (List.not_mem_of_not_mem_cons hs)

/-- backtracking over the name `s` on top of `a ++ b`, with the mark behind the rendering of `b` -/
theorem backtrack_outOf (r : Bool) (s : Bytes) (a b : List Bytes) (hne : s ≠ []) (hs : slash ∉ s) :
    backtrack (outOf r b).length (outOf r (s :: (a ++ b))) = outOf r (a ++ b) := by
  have hne' : s.reverse ≠ [] := mt List.reverse_eq_nil_iff.mp hne
  have hs' : slash ∉ s.reverse := mt List.mem_reverse.mp hs
  have hle := outOf_length_append r a b
  rw [outOf_cons]
  by_cases he : a ++ b = []
  · rw [if_neg (not_not_intro he), backtrack_elem _ _ _ hne' hs' hle,
      if_neg (by rw [(List.append_eq_nil_iff.mp he).1]; exact Nat.lt_irrefl _)]
  · rw [if_pos he, backtrack_elem _ _ _ hne' hs' (by simp; omega), if_pos (by simp; omega)]
    simp [backtrack]

def Rel (r : Bool) (st : List Bytes) (out : Bytes) (dd : Nat) : Prop :=
  ∃ k segs, st = segs ++ List.replicate k dotdot ∧ (∀ s ∈ segs, Normal s) ∧ (r = true → k = 0) ∧
    out = outOf r st ∧ dd = (outOf r (List.replicate k dotdot)).length

theorem Rel.wfr {r st out dd} (h : Rel r st out dd) : WFr r st := by
  obtain ⟨k, segs, h1, h2, h3, _, _⟩ := h
  exact ⟨k, segs, h1, h2, h3⟩

theorem Rel.out_eq {r st out dd} (h : Rel r st out dd) : out = outOf r st := by
  obtain ⟨_, _, _, _, _, h4, _⟩ := h
  exact h4

theorem rel_init (r : Bool) : Rel r [] (baseOut r) (baseOut r).length :=
  ⟨0, [], rfl, nofun, fun _ => rfl, rfl, rfl⟩

theorem emit_rel (r : Bool) (s : Bytes) (st : List Bytes) (out : Bytes) (dd : Nat)
    (h : Rel r st out dd) (hne : s ≠ []) (hs : slash ∉ s) :
    Rel r (step r st s) (emit r s out dd).1 (emit r s out dd).2 := by
  have hall := fun s hs => (wfr_mem h.wfr s hs).1
  obtain ⟨k, segs, rfl, hn, hk, rfl, rfl⟩ := h
  unfold emit
  by_cases h1 : s = dot
  · rw [if_pos h1, h1, step_dot]
    exact ⟨k, segs, rfl, hn, hk, rfl, rfl⟩
  rw [if_neg h1]
  by_cases h2 : s = dotdot
  · subst h2
    rw [if_pos rfl]
    cases segs with
    | cons x segs' =>
      -- the top of the stack is a name: `out.w > dotdot`, backtrack over it
      have hx := hn x List.mem_cons_self
      have hgt : (outOf r (x :: (segs' ++ List.replicate k dotdot))).length >
          (outOf r (List.replicate k dotdot)).length := by
        have h1 := outOf_length_cons r x (segs' ++ List.replicate k dotdot)
        have h2 := outOf_length_append r segs' (List.replicate k dotdot)
        have h3 := List.length_pos_iff.mpr hx.1
        omega
      rw [List.cons_append, if_pos hgt, step_dotdot_cons, if_pos hx.2.2.1]
      exact ⟨k, segs', rfl, fun y hy => hn y (List.mem_cons_of_mem _ hy), hk,
        backtrack_outOf r x segs' _ hx.1 hx.2.2.2, rfl⟩
    | nil =>
      rw [List.nil_append, if_neg (Nat.lt_irrefl _)]
      cases r with
      | true =>
        rw [hk rfl]
        exact rel_init true
      | false =>
        -- `dotdot = out.w` and not rooted: ".." is appended like a name
        have hout := outOf_push_dotdot _ hall
        rw [step_dotdot_replicate]
        exact ⟨k + 1, [], rfl, nofun, nofun, hout.symm, congrArg List.length hout.symm⟩
  · rw [if_neg h2, step_push r _ s hne h1 h2]
    exact ⟨k, s :: segs, rfl, List.forall_mem_cons.mpr ⟨⟨hne, h1, h2, hs⟩, hn⟩, hk,
      (outOf_push r s _ hall).symm, rfl⟩

theorem body_spec (r : Bool) (c : UInt8) (t : Bytes) (st : List Bytes) (out : Bytes) (dd : Nat)
    (h : Rel r st out dd) :
    ∃ st', Rel r st' (body r c t out dd).2.1 (body r c t out dd).2.2 ∧
      (split (body r c t out dd).1).foldl (step r) st' = (split (c :: t)).foldl (step r) st ∧
      (body r c t out dd).1.length ≤ t.length := by
  by_cases hc : c = slash
  · rw [hc, body_slash, split_cons_slash]
    exact ⟨st, h, by rw [List.foldl_cons, step_empty], Nat.le_refl _⟩
  · obtain ⟨e, rest, rfl, he, hr⟩ := elem_rest t
    have he' := List.not_mem_cons_of_ne_of_not_mem (Ne.symm hc) he
    rw [body_elem r c e rest out dd hc he hr]
    exact ⟨step r st (c :: e), emit_rel r (c :: e) st out dd h (List.cons_ne_nil c e) he',
      (foldl_split_elem r (c :: e) rest st he' hr).symm, by simp⟩

/-- the fuel `len(path)` never runs out: any two sufficient amounts give the same result -/
theorem loop_fuel (r : Bool) (f1 f2 : Nat) (rest out : Bytes) (dd : Nat)
    (h1 : rest.length ≤ f1) (h2 : rest.length ≤ f2) :
    loop r f1 rest out dd = loop r f2 rest out dd := by
  fun_induction loop r f1 rest out dd generalizing f2 with
  | case1 rest out dd =>
    obtain rfl := List.eq_nil_of_length_eq_zero (Nat.le_zero.mp h1)
    cases f2 <;> rfl
  | case2 => cases f2 <;> rfl
  | case3 f1 c t out dd ih =>
    cases f2 with
    | zero => exact absurd h2 (Nat.not_succ_le_zero _)
    | succ f2 =>
      have := body_length r c t out dd
      exact ih f2 (Nat.le_trans this (Nat.le_of_succ_le_succ h1))
        (Nat.le_trans this (Nat.le_of_succ_le_succ h2))

theorem loop_spec (r : Bool) (fuel : Nat) (rest : Bytes) (st : List Bytes) (out : Bytes) (dd : Nat)
    (h : Rel r st out dd) (hl : rest.length ≤ fuel) :
    ∃ dd', Rel r ((split rest).foldl (step r) st) (loop r fuel rest out dd) dd' := by
  fun_induction loop r fuel rest out dd generalizing st with
  | case1 rest out dd =>
    obtain rfl := List.eq_nil_of_length_eq_zero (Nat.le_zero.mp hl)
    exact ⟨dd, h⟩
  | case2 => exact ⟨_, h⟩
  | case3 fuel c t out dd ih =>
    obtain ⟨st', hrel, hfold, hlen⟩ := body_spec r c t st out dd h
    rw [← hfold]
    exact ih st' hrel (Nat.le_trans hlen (Nat.le_of_succ_le_succ hl))

/-- The tail of `Clean` (`if out.w == 0 { return "." }; return out.string()`) after the loop has run
    over `inp` from the initial buffer `baseOut r`. -/
theorem loop_render (r : Bool) (fuel : Nat) (inp : Bytes) (h : inp.length ≤ fuel) :
    (if (loop r fuel inp (baseOut r) (baseOut r).length).length = 0 then [dotB]
      else (loop r fuel inp (baseOut r) (baseOut r).length).reverse) =
      render r (stackOf r (split inp)) := by
  obtain ⟨dd', hrel⟩ := loop_spec r fuel inp [] _ _ (rel_init r) h
  have hall := fun s hs => (wfr_mem hrel.wfr s hs).1
  rw [hrel.out_eq, outOf_reverse]
  cases r with
  | true =>
    have : 0 < (outOf true ((split inp).foldl (step true) [])).length := baseOut_length_le true _
    rw [if_neg (Nat.ne_of_gt this)]
    rfl
  | false =>
    -- the buffer is empty exactly when the stack is: `if out.w == 0 { return "." }`
    have := outOf_length_eq_base false _ hall
    simp [baseOut] at this
    simp [render, stackOf, baseOut, this, ← dot_eq]

/-- **The byte algorithm of `path.Clean` equals the segment model, for every byte string.** -/
theorem cleanBytes_eq : cleanBytes = clean := by
  funext p
  cases p with
  | nil => rfl
  | cons c t =>
    by_cases hc : c = slash
    · subst hc
      -- both sides compute: the loop starts behind the leading '/', whose empty segment `step` skips
      exact loop_render true (t.length + 1) t (Nat.le_succ _)
    · have hd : decide (c = slash) = false := decide_eq_false hc
      unfold cleanBytes clean isRooted
      simp only [hd]
      exact loop_render false (t.length + 1) (c :: t) (Nat.le_refl _)

theorem joinB_eq (elems : List Bytes) : joinB elems = join elems := by
  unfold joinB join
  rw [cleanBytes_eq]
  cases List.dropWhile (fun e => decide (e = [])) elems <;> rfl

end Glb.PathCleanBytes
