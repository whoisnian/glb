/-
  Helper lemmas for C13b: the hand models of strconv.Quote / strconv.Unquote (Glb/Model/StrconvQuote.lean)
  satisfy the contract `QuoteContract` of Glb/Spec/TextTokens.lean.
  The idea is the escape unit (`EscUnit`): a piece of output that `unquoteLoop` reads back as the bytes it
  stands for (`Reads`) and that is neutral for the interior predicate; there is one for each thing the
  quoting loop writes, and units concatenate.  Last, what the shortcut of `Unquote` rests on: where the
  first quote is (`indexByte_split`) and that the escape loop reads an interior the shortcut accepts back
  as it stands (`unquoteLoop_valid`).  What a decoding step of a well-formed multi-byte sequence is worth
  (`Utf8.Multi`) comes from Glb/Proofs/Utf8.lean.  Property theorems are in Glb/Props/C13b.lean.
-/
import Glb.Model.StrconvQuote
import Glb.Spec.TextTokens
import Glb.Proofs.Utf8
import Glb.Proofs.TextHandler

namespace Glb.Quote
open Glb Glb.Utf8 Glb.TextTokens Glb.TextProofs

theorem validRune_iff (r : Nat) : validRune r = true ↔ Scalar r := by
  simp [validRune, Scalar]

/-- `unhex` reads a digit of `lowerhex` back; the digit is none of the bytes the scanners look for -/
theorem hexDigit_spec (n : Nat) : unhex (hexDigit n) = some (n % 16) ∧ Plain (hexDigit n) := by
  have t : ∀ m < 16, unhex (hexNib m) = some m := by decide
  have h := Nat.mod_lt n (show 0 < 16 by decide)
  exact ⟨t _ h, hexNib_plain _ h⟩

/-- the `n` low hex digits of `r`, most significant first -/
def hexDigits (r : Nat) : Nat → Bytes
  | 0 => []
  | n + 1 => hexDigit (r / 16 ^ n) :: hexDigits r n

theorem length_hexDigits (r : Nat) : ∀ n, (hexDigits r n).length = n
  | 0 => rfl
  | n + 1 => congrArg (· + 1) (length_hexDigits r n)

theorem hexVal_hexDigits (r : Nat) (X : Bytes) :
    ∀ n v, hexVal n (hexDigits r n ++ X) v = some (v * 16 ^ n + r % 16 ^ n)
  | 0, v => by simp [hexVal, Nat.mod_one]
  | n + 1, v => by
    simp only [hexDigits, List.cons_append, hexVal, (hexDigit_spec _).1]
    rw [hexVal_hexDigits r X n, Nat.mod_pow_succ, Nat.pow_succ, Nat.add_mul]
    ac_rfl

theorem hexVal_hexDigits_lt {r n : Nat} (h : r < 16 ^ n) (X : Bytes) :
    hexVal n (hexDigits r n ++ X) 0 = some r := by
  rw [hexVal_hexDigits, Nat.zero_mul, Nat.zero_add, Nat.mod_eq_of_lt h]

theorem interior_hexDigits (r : Nat) (Y : Bytes) : ∀ n, interiorOK false (hexDigits r n ++ Y) = interiorOK false Y
  | 0 => rfl
  | n + 1 => by
    rw [hexDigits, List.cons_append, interior_plain (hexDigit_spec _).2, interior_hexDigits r Y n]

/-- a byte ≥ 0x80 is none of the ASCII bytes the two loops look for -/
theorem high_plain {b : UInt8} (h : 0x80 ≤ b) : Plain b ∧ b ≠ 0x0a := by
  refine ⟨⟨UInt8.not_lt.mpr (UInt8.le_trans (by decide) h), ?_, ?_⟩, ?_⟩ <;> (rintro rfl; exact absurd h (by decide))

theorem interior_high : ∀ (u Y : Bytes), (∀ x ∈ u, 0x80 ≤ x) → interiorOK false (u ++ Y) = interiorOK false Y
  | [], _, _ => rfl
  | a :: u, Y, h => by
    rw [List.cons_append, interior_plain (high_plain (h a List.mem_cons_self)).1]
    exact interior_high u Y (fun x hx => h x (List.mem_cons_of_mem _ hx))

/-- prepend the bytes of one character to a result of the loop -/
def pre (o : Bytes) (r : Option (Bytes × Bytes)) : Option (Bytes × Bytes) := r.map fun p => (o ++ p.1, p.2)

theorem unquoteLoop_skip : ∀ (p X : Bytes), unquoteLoop p.length (p ++ X) = unquoteLoop 0 X
  | [], _ => rfl
  | _ :: p, X => by
    simp only [List.length_cons, List.cons_append, unquoteLoop]
    exact unquoteLoop_skip p X

/-- `unquoteLoop` reads `u` back as the bytes `o`, whatever follows -/
def Reads (u o : Bytes) : Prop := ∀ X, unquoteLoop 0 (u ++ X) = pre o (unquoteLoop 0 X)

theorem Reads.nil : Reads [] [] := fun X => by simp [pre]

theorem Reads.append {u o u' o' : Bytes} (h : Reads u o) (h' : Reads u' o') : Reads (u ++ u') (o ++ o') := fun X => by
  rw [List.append_assoc, h, h']
  cases unquoteLoop 0 X <;> simp [pre]

theorem Reads.quote {u o : Bytes} (h : Reads u o) (X : Bytes) : unquoteLoop 0 (u ++ 0x22 :: X) = some (o, X) := by
  simp [h (0x22 :: X), unquoteLoop, pre]

theorem unq_unit (b0 : UInt8) (u : Bytes) (v : Nat) (mb : Bool) (h22 : b0 ≠ 0x22) (h0a : b0 ≠ 0x0a)
    (hc : ∀ X, unquoteChar (b0 :: (u ++ X)) = some (v, mb, u.length + 1)) :
    Reads (b0 :: u) (charBytes v mb) := fun X => by
  simp only [List.cons_append, unquoteLoop, beq_iff_eq, h22, h0a, hc, if_false, Nat.add_sub_cancel,
    unquoteLoop_skip, pre]
  cases unquoteLoop 0 X <;> rfl

theorem unq_plain (b : UInt8) (h80 : b < 0x80) (h22 : b ≠ 0x22) (h5c : b ≠ 0x5c) (h0a : b ≠ 0x0a) :
    Reads [b] [b] := by
  have h := unq_unit b [] b.toNat false h22 h0a (by simp [unquoteChar, h22, h5c, UInt8.not_le.mpr h80])
  simpa [charBytes] using h

theorem charBytes_true (r : Nat) : charBytes r true = appendRune r := by
  by_cases h : r < 0x80 <;> simp [charBytes, appendRune, h]

theorem appendRune_multi {b0 : UInt8} {rest : Bytes} {d : Nat × Nat} (M : Multi b0 rest d) :
    appendRune d.1 = (b0 :: rest).take d.2 := by
  have hs := M.scalar
  unfold Scalar at hs
  have hbad : ¬ (d.1 > 0x10FFFF ∨ 0xD800 ≤ d.1 ∧ d.1 ≤ 0xDFFF) := by omega
  simp [appendRune, Nat.not_lt.mpr M.ge, hbad, M.enc]

theorem unq_multi (b0 : UInt8) (rest : Bytes) (d : Nat × Nat) (M : Multi b0 rest d) :
    Reads ((b0 :: rest).take d.2) ((b0 :: rest).take d.2) := by
  have hp := high_plain M.lead
  have hag := M.again
  have hlen := List.length_take_of_le M.len
  rw [M.take_eq] at hag hlen ⊢
  have h := unq_unit b0 (rest.take (d.2 - 1)) d.1 true hp.1.2.1 hp.2 fun X => by
    simp only [unquoteChar, beq_iff_eq, hp.1.2.1, M.lead, if_true, if_false, ← List.cons_append, hag]
    exact congrArg (fun n => some (d.1, true, n)) hlen.symm
  rwa [charBytes_true, appendRune_multi M, M.take_eq] at h

/-- `u` is what the quoting loop writes for the bytes `o`: `unquoteLoop` reads it back as `o`, and it is
    neutral for the interior predicate -/
def EscUnit (u o : Bytes) : Prop :=
  Reads u o ∧ ∀ Y, interiorOK false (u ++ Y) = interiorOK false Y

theorem unit_nil : EscUnit [] [] := ⟨.nil, fun _ => rfl⟩

theorem unit_append {u o u' o' : Bytes} (h : EscUnit u o) (h' : EscUnit u' o') : EscUnit (u ++ u') (o ++ o') := by
  refine ⟨h.1.append h'.1, fun Y => ?_⟩
  rw [List.append_assoc, h.2, h'.2]

theorem unit_plain {b : UInt8} (hp : Plain b) (h80 : b < 0x80) : EscUnit [b] [b] :=
  ⟨unq_plain b h80 hp.2.1 hp.2.2 (by rintro rfl; exact hp.1 (by decide)), interior_plain hp⟩

/-- a backslash, the letter `c` and `n` hex digits (none for `\a`, `\b`, …) -/
theorem unit_hex (c : UInt8) (n r : Nat) (mb : Bool) (hc : ¬ c < 0x20)
    (he : ∀ X, escapeChar c (hexDigits r n ++ X) = some (r, mb, n)) :
    EscUnit (0x5c :: c :: hexDigits r n) (charBytes r mb) := by
  refine ⟨?_, fun Y => ?_⟩
  · exact unq_unit 0x5c (c :: hexDigits r n) r mb (by decide) (by decide) (by
      simp [unquoteChar, he, length_hexDigits])
  · simp [interiorOK, hc, interior_hexDigits]

theorem unit_simple (c : UInt8) (v : Nat) (he : ∀ t, escapeChar c t = some (v, false, 0)) (hc : ¬ c < 0x20) :
    EscUnit [0x5c, c] [UInt8.ofNat v] := by
  simpa [charBytes, hexDigits] using unit_hex c 0 v false hc he

theorem unit_x (b : UInt8) : EscUnit (xEsc b.toNat) [b] := by
  simpa [charBytes, xEsc, hexDigits] using unit_hex 0x78 2 b.toNat false (by decide) fun X => by
    simp [escapeChar, hexVal_hexDigits_lt (n := 2) b.toNat_lt]

theorem unit_u (r : Nat) (hr : r < 0x10000) (hv : validRune r = true) : EscUnit (uEsc r) (appendRune r) := by
  simpa [charBytes_true, uEsc, hexDigits] using unit_hex 0x75 4 r true (by decide) fun X => by
    simp [escapeChar, hexVal_hexDigits_lt (n := 4) hr, hv]

theorem unit_U (r : Nat) (hv : validRune r = true) : EscUnit (bigUEsc r) (appendRune r) := by
  have hr : r < 0x100000000 := by
    simp [validRune] at hv
    omega
  simpa [charBytes_true, bigUEsc, hexDigits] using unit_hex 0x55 8 r true (by decide) fun X => by
    simp [escapeChar, hexVal_hexDigits_lt (n := 8) hr, hv]

theorem unit_multi (b0 : UInt8) (rest : Bytes) (d : Nat × Nat) (M : Multi b0 rest d) :
    EscUnit ((b0 :: rest).take d.2) ((b0 :: rest).take d.2) :=
  ⟨unq_multi b0 rest d M, fun Y => interior_high _ Y M.high⟩

theorem unit_ite {c : Prop} [Decidable c] {u v o : Bytes} (h1 : c → EscUnit u o) (h2 : ¬ c → EscUnit v o) :
    EscUnit (if c then u else v) o := by
  split
  · exact h1 ‹c›
  · exact h2 ‹¬ c›

/-- the test for one of the escapes `\a`, `\b`, … in `appendEscapedRune` -/
theorem unit_ite_simple {r k : Nat} (c : UInt8) {rest : Bytes} (he : ∀ t, escapeChar c t = some (k, false, 0))
    (hc : ¬ c < 0x20) (hk : k < 0x80) (h : EscUnit rest (appendRune r)) :
    EscUnit (if (r == k) = true then [0x5c, c] else rest) (appendRune r) := by
  refine unit_ite (fun e => ?_) fun _ => h
  obtain rfl : r = k := eq_of_beq e
  rw [appendRune, if_pos hk]
  exact unit_simple c r he hc

/-- The tests of `appendEscapedRune` in turn, for a rune `r` that `utf8.AppendRune` writes as `o`.  Only
    the printable case writes `o` itself, and `hs` says that it reads back; every other case up to the
    `\x` escape fires for `r < 0x80` only, where `o` is the byte `r`. -/
theorem esc_rune {isPrint : Nat → Bool} (hP : PrintOK isPrint) (r : Nat) (o : Bytes) (hv : Scalar r)
    (ho : appendRune r = o) (hs : ¬ r < 0x20 ∧ r ≠ 0x22 ∧ r ≠ 0x5c → EscUnit o o) :
    EscUnit (escapedRune isPrint r) o := by
  subst ho
  unfold escapedRune
  refine unit_ite (fun h => ?_) fun hq => ?_
  · rcases (by simpa using h : r = 0x22 ∨ r = 0x5c) with rfl | rfl <;>
      exact unit_simple _ _ (fun _ => rfl) (by decide)
  simp only [Bool.or_eq_true, beq_iff_eq, not_or] at hq
  refine unit_ite (fun hp => hs ⟨fun h => by simp [hP.ctrl r h] at hp, hq⟩) fun _ => ?_
  refine unit_ite_simple 0x61 (fun _ => rfl) (by decide) (by decide) ?_
  refine unit_ite_simple 0x62 (fun _ => rfl) (by decide) (by decide) ?_
  refine unit_ite_simple 0x66 (fun _ => rfl) (by decide) (by decide) ?_
  refine unit_ite_simple 0x6e (fun _ => rfl) (by decide) (by decide) ?_
  refine unit_ite_simple 0x72 (fun _ => rfl) (by decide) (by decide) ?_
  refine unit_ite_simple 0x74 (fun _ => rfl) (by decide) (by decide) ?_
  refine unit_ite_simple 0x76 (fun _ => rfl) (by decide) (by decide) ?_
  refine unit_ite (fun hx => ?_) fun _ => ?_
  · have hr : r < 0x80 := by
      simp at hx
      omega
    rw [appendRune, if_pos hr]
    exact unit_x (UInt8.ofNat r)
  have hv := (validRune_iff r).mpr hv
  rw [hv, Bool.not_true, if_neg Bool.false_ne_true]
  exact unit_ite (fun hlt => unit_u r hlt hv) fun _ => unit_U r hv

theorem quoteLoop_step {isPrint : Nat → Bool} (hP : PrintOK isPrint) (b : UInt8) (rest : Bytes) :
    ∃ u, quoteLoop isPrint 0 (b :: rest) = u ++ quoteLoop isPrint ((decodeRune (b :: rest)).2 - 1) rest ∧
      EscUnit u ((b :: rest).take (decodeRune (b :: rest)).2) := by
  have hc := decodeRune_cases b rest
  generalize hd : decodeRune (b :: rest) = d at hc
  cases hc with
  | ascii hb =>
    have hr : b.toNat < 0x80 := UInt8.lt_iff_toNat_lt.mp hb
    have hne : ¬ (b.toNat = runeError) := by unfold runeError; omega
    refine ⟨_, by simp [quoteLoop, hb, hne],
      esc_rune hP b.toNat [b] (.inl (by omega)) (by rw [appendRune, if_pos hr, ofNat_eq rfl]) fun h => ?_⟩
    exact unit_plain ⟨mt UInt8.lt_iff_toNat_lt.mp h.1, mt (congrArg _) h.2.1, mt (congrArg _) h.2.2⟩ hb
  | bad h80 =>
    exact ⟨xEsc b.toNat, by simp [quoteLoop, UInt8.not_lt.mpr h80, hd], unit_x b⟩
  | two | three | four =>
    have M := decode_multi b rest (by rw [hd]; simp)
    rw [hd] at M
    exact ⟨_, by simp [quoteLoop, UInt8.not_lt.mpr M.lead, hd],
      esc_rune hP _ _ M.scalar (appendRune_multi M) fun _ => unit_multi b rest _ M⟩

theorem take_drop_step (b : UInt8) (rest : Bytes) :
    ∀ n, 1 ≤ n → (b :: rest).take n ++ rest.drop (n - 1) = b :: rest
  | n + 1, _ => congrArg (b :: ·) (List.take_append_drop n rest)

/-- all that the quoting loop writes is one unit for the bytes it has read -/
theorem quoteLoop_unit {isPrint : Nat → Bool} (hP : PrintOK isPrint) :
    ∀ (s : Bytes) (k : Nat), EscUnit (quoteLoop isPrint k s) (s.drop k)
  | [], k => by
    rw [List.drop_nil]
    exact unit_nil
  | b :: rest, k + 1 => quoteLoop_unit hP rest k
  | b :: rest, 0 => by
    obtain ⟨u, hq, hu⟩ := quoteLoop_step hP b rest
    have h := unit_append hu (quoteLoop_unit hP rest ((decodeRune (b :: rest)).2 - 1))
    rw [take_drop_step b rest _ (decodeRune_size_pos b rest)] at h
    rwa [hq]

theorem indexByte_split (c : UInt8) (t : Bytes) :
    match indexByte c t with
    | none => c ∉ t
    | some e => t = t.take e ++ c :: t.drop (e + 1) ∧ c ∉ t.take e := by
  fun_induction indexByte c t with
  | case1 => exact List.not_mem_nil
  | case2 b t hb =>
    rw [beq_iff_eq.mp hb]
    exact ⟨rfl, List.not_mem_nil⟩
  | case3 b t hb ih =>
    have hc : c ≠ b := fun e => hb (beq_iff_eq.mpr e.symm)
    cases hi : indexByte c t with
    | none =>
      rw [hi] at ih
      exact List.not_mem_cons_of_ne_of_not_mem hc ih
    | some e =>
      rw [hi] at ih
      exact ⟨congrArg (b :: ·) ih.1, List.not_mem_cons_of_ne_of_not_mem hc ih.2⟩

theorem unquoteLoop_none (t : Bytes) (k : Nat) (h : (0x22 : UInt8) ∉ t) : unquoteLoop k t = none := by
  -- the only `some` exit of `unquoteLoop` is at a byte equal to 0x22
  fun_induction unquoteLoop k t <;> simp_all

theorem unquoteLoop_valid (body : Bytes) (k : Nat) (hv : validLoop k body = true)
    (h1 : (0x5c : UInt8) ∉ body) (h2 : (0x0a : UInt8) ∉ body) (h3 : (0x22 : UInt8) ∉ body) :
    Reads (body.drop k) (body.drop k) := by
  fun_induction validLoop k body
  case case1 =>
    rw [List.drop_nil]
    exact .nil
  all_goals simp only [List.mem_cons, not_or] at h1 h2 h3
  case case2 ih => exact ih hv h1.2 h2.2 h3.2
  -- an ASCII byte
  case case3 b rest hb ih =>
    exact (unq_plain b hb (Ne.symm h3.1) (Ne.symm h1.1) (Ne.symm h2.1)).append (ih hv h1.2 h2.2 h3.2)
  case case4 => cases hv
  -- a well-formed multi-byte sequence
  case case5 b rest hb hd ih =>
    have h := (unq_multi b rest _ (decode_multi b rest (by omega))).append (ih hv h1.2 h2.2 h3.2)
    rwa [take_drop_step b rest _ (decodeRune_size_pos b rest)] at h

end Glb.Quote
