/-
  The step relation of the TaskLane model for `cfg L Q`, edge by edge.

  `Step` is a generic interpreter of select-programs; for the three fixed programs every step is
  one of the concrete edges `XStep` (`Step.toX`).  The programs enter only through the lookup
  table `At` (which instruction sits at which pc) and its restrictions to one kind of case,
  `RecvAt`/`SendAt`; everything proved about `cfg L Q` afterwards goes by cases on `XStep`.
-/
import Glb.Model.TaskLane

namespace Glb.TaskLane

variable {L Q : Nat}

instance (c : Cfg) (s : St) (g : Gid) : Decidable (s.live c g) := by
  cases g <;> exact Nat.decLt ..

/-- the three programs as a relation: goroutine (with its pc), instruction -/
inductive At (s : St) : Gid → Instr → Prop where
  | q0 (i) : (s.qs i).pc = 0 → At s (.q i) (.select [(.done, 6), (.recv .buf, 1)] none)
  | q1 (i) : (s.qs i).pc = 1 → At s (.q i) (.act .incCnt 2)
  | q2 (i) : (s.qs i).pc = 2 → At s (.q i) (.select [(.done, 6)] (some 3))
  | q3 (i) : (s.qs i).pc = 3 → At s (.q i) (.select [(.send .own, 5)] (some 4))
  | q4 (i) : (s.qs i).pc = 4 → At s (.q i) (.select [(.done, 6), (.send .own, 5), (.send .uni, 5)] none)
  | q5 (i) : (s.qs i).pc = 5 → At s (.q i) (.act .decCnt 0)
  | q6 (i) : (s.qs i).pc = 6 → At s (.q i) .halt
  | w0 (i) : (s.ws i).pc = 0 → At s (.w i) (.select [(.done, 4)] (some 1))
  | w1 (i) : (s.ws i).pc = 1 → At s (.w i) (.select [(.recv .own, 3)] (some 2))
  | w2 (i) : (s.ws i).pc = 2 → At s (.w i) (.select [(.done, 4), (.recv .own, 3), (.recv .uni, 3)] none)
  | w3 (i) : (s.ws i).pc = 3 → At s (.w i) (.act .run 0)
  | w4 (i) : (s.ws i).pc = 4 → At s (.w i) .halt
  | p0 (k) : (s.ps k).pc = 0 → At s (.p k) (.select [(.done, 2)] (some 1))
  | p1 (k) : (s.ps k).pc = 1 → At s (.p k) (.select [(.done, 2), (.send .buf, 3), (.timeout, 4)] none)
  | p2 (k) : (s.ps k).pc = 2 → At s (.p k) (.act .retCtxErr 5)
  | p3 (k) : (s.ps k).pc = 3 → At s (.p k) (.act .retNil 5)
  | p4 (k) : (s.ps k).pc = 4 → At s (.p k) (.act .retTimeout 5)
  | p5 (k) : (s.ps k).pc = 5 → At s (.p k) .halt

theorem instr_at {s : St} {g : Gid} {ins : Instr} (h : instrAt (cfg L Q) s g = some ins) : At s g ins := by
  cases g with
  | q i =>
    change queueProg[(s.qs i).pc]? = _ at h
    match hn : (s.qs i).pc, h with
    | 0, h => cases h; exact .q0 i hn
    | 1, h => cases h; exact .q1 i hn
    | 2, h => cases h; exact .q2 i hn
    | 3, h => cases h; exact .q3 i hn
    | 4, h => cases h; exact .q4 i hn
    | 5, h => cases h; exact .q5 i hn
    | 6, h => cases h; exact .q6 i hn
    | _ + 7, h => cases h
  | w i =>
    change workerProg[(s.ws i).pc]? = _ at h
    match hn : (s.ws i).pc, h with
    | 0, h => cases h; exact .w0 i hn
    | 1, h => cases h; exact .w1 i hn
    | 2, h => cases h; exact .w2 i hn
    | 3, h => cases h; exact .w3 i hn
    | 4, h => cases h; exact .w4 i hn
    | _ + 5, h => cases h
  | p k =>
    change pushProg[(s.ps k).pc]? = _ at h
    match hn : (s.ps k).pc, h with
    | 0, h => cases h; exact .p0 k hn
    | 1, h => cases h; exact .p1 k hn
    | 2, h => cases h; exact .p2 k hn
    | 3, h => cases h; exact .p3 k hn
    | 4, h => cases h; exact .p4 k hn
    | 5, h => cases h; exact .p5 k hn
    | _ + 6, h => cases h

theorem q_at {s : St} {i n : Nat} (h : (s.qs i).pc = n) :
    instrAt (cfg L Q) s (.q i) = queueProg[n]? :=
  h ▸ rfl

theorem w_at {s : St} {i n : Nat} (h : (s.ws i).pc = n) :
    instrAt (cfg L Q) s (.w i) = workerProg[n]? :=
  h ▸ rfl

theorem p_at {s : St} {k n : Nat} (h : (s.ps k).pc = n) :
    instrAt (cfg L Q) s (.p k) = pushProg[n]? :=
  h ▸ rfl

/-- the receive cases: goroutine (with its pc), default of the select, channel, target; a goroutine
    can be parked (`parkedOn`) on those without default: a worker at w2, a queue goroutine at q0 -/
inductive RecvAt (s : St) : Gid → Option Nat → Ch → Nat → Prop where
  | q0 (i) : (s.qs i).pc = 0 → RecvAt s (.q i) none .buf 1
  | w1 (i) : (s.ws i).pc = 1 → RecvAt s (.w i) (some 2) .own 3
  | w2o (i) : (s.ws i).pc = 2 → RecvAt s (.w i) none .own 3
  | w2u (i) : (s.ws i).pc = 2 → RecvAt s (.w i) none .uni 3

/-- the send cases: goroutine (with its pc), default of the select, channel, target; parked senders
    are a queue goroutine at q4 and a producer at p1 -/
inductive SendAt (s : St) : Gid → Option Nat → Ch → Nat → Prop where
  | q3 (i) : (s.qs i).pc = 3 → SendAt s (.q i) (some 4) .own 5
  | q4o (i) : (s.qs i).pc = 4 → SendAt s (.q i) none .own 5
  | q4u (i) : (s.qs i).pc = 4 → SendAt s (.q i) none .uni 5
  | p1 (k) : (s.ps k).pc = 1 → SendAt s (.p k) none .buf 3

theorem recvAt {s : St} {g : Gid} {cs : List (Case × Nat)} {d : Option Nat} {x : Ch} {t : Nat}
    (h : instrAt (cfg L Q) s g = some (.select cs d)) (hm : (Case.recv x, t) ∈ cs) :
    RecvAt s g d x t := by
  cases instr_at h <;> simp at hm
  case q0 i hpc => obtain ⟨rfl, rfl⟩ := hm; exact .q0 i hpc
  case w1 i hpc => obtain ⟨rfl, rfl⟩ := hm; exact .w1 i hpc
  case w2 i hpc =>
    rcases hm with ⟨rfl, rfl⟩ | ⟨rfl, rfl⟩
    · exact .w2o i hpc
    · exact .w2u i hpc

theorem sendAt {s : St} {g : Gid} {cs : List (Case × Nat)} {d : Option Nat} {x : Ch} {t : Nat}
    (h : instrAt (cfg L Q) s g = some (.select cs d)) (hm : (Case.send x, t) ∈ cs) :
    SendAt s g d x t := by
  cases instr_at h <;> simp at hm
  case q3 i hpc => obtain ⟨rfl, rfl⟩ := hm; exact .q3 i hpc
  case q4 i hpc =>
    rcases hm with ⟨rfl, rfl⟩ | ⟨rfl, rfl⟩
    · exact .q4o i hpc
    · exact .q4u i hpc
  case p1 k hpc => obtain ⟨rfl, rfl⟩ := hm; exact .p1 k hpc

theorem timeoutAt {s : St} {g : Gid} {cs : List (Case × Nat)} {d : Option Nat} {t : Nat}
    (h : instrAt (cfg L Q) s g = some (.select cs d)) (hm : (Case.timeout, t) ∈ cs) :
    ∃ k, g = .p k ∧ (s.ps k).pc = 1 ∧ t = 4 := by
  cases instr_at h <;> simp at hm
  case p1 k hpc => exact ⟨k, rfl, hpc, hm⟩

theorem upd_upd {α} (f : Nat → α) (i : Nat) (v w : α) : upd (upd f i v) i w = upd f i w := by
  funext j; simp only [upd]; split <;> rfl

/-- `case <-ctx.Done()` edges -/
def doneEdge : Gid → Nat → Nat → Prop
  | .q _, a, b => (a = 0 ∨ a = 2 ∨ a = 4) ∧ b = 6
  | .w _, a, b => (a = 0 ∨ a = 2) ∧ b = 4
  | .p _, a, b => (a = 0 ∨ a = 1) ∧ b = 2

theorem doneAt {s : St} {g : Gid} {cs : List (Case × Nat)} {d : Option Nat} {t : Nat}
    (h : instrAt (cfg L Q) s g = some (.select cs d)) (hm : (Case.done, t) ∈ cs) :
    doneEdge g (s.get g).pc t := by
  cases instr_at h <;> simp at hm <;> subst hm <;> simp [doneEdge, St.get, *]

/-- `default` edges of the selects whose only case is `<-ctx.Done()` -/
def dfltEdge : Gid → Nat → Nat → Prop
  | .q _, a, b => a = 2 ∧ b = 3
  | .w _, a, b => a = 0 ∧ b = 1
  | .p _, a, b => a = 0 ∧ b = 1

/-- pcs of the blocking selects -/
def parkPc : Gid → Nat → Prop
  | .q _, a => a = 0 ∨ a = 4
  | .w _, a => a = 2
  | .p _, a => a = 1

inductive XStep (L Q : Nat) : St → Label → St → Prop where
  | cancel (s : St) : s.cancelled = false → XStep L Q s .cancel { s with cancelled := true }
  | push (s : St) (t : Tid) (lane : Nat) : lane < L → (∀ k, k < s.np → (s.ps k).held ≠ t) →
      XStep L Q s (.push s.np t lane)
        { s with ps := upd s.ps s.np { pc := 0, parked := false, held := t },
                 plane := upd s.plane s.np lane, np := s.np + 1 }
  /-- some select takes its `<-ctx.Done()` case -/
  | done (s : St) (g : Gid) (a b : Nat) : s.live (cfg L Q) g → s.cancelled = true →
      (s.get g).pc = a → doneEdge g a b → XStep L Q s .tau (s.set g (goto (s.get g) b))
  /-- queue goroutine takes the head of its buffer -/
  | qTake (s : St) (i : Nat) : i < L → (s.qs i).pc = 0 → s.buf i ≠ [] →
      XStep L Q s .tau
        { s with buf := upd s.buf i (s.buf i).tail, qs := upd s.qs i ⟨1, false, (s.buf i).headD 0⟩ }
  /-- producer puts its task into the buffer -/
  | pSend (s : St) (k : Nat) : k < s.np → (s.ps k).pc = 1 → (s.buf (s.plane k)).length < Q →
      XStep L Q s .tau
        { s with buf := upd s.buf (s.plane k) (s.buf (s.plane k) ++ [(s.ps k).held]),
                 accepted := s.accepted ++ [(s.ps k).held], ps := upd s.ps k (goto (s.ps k) 3) }
  | pTimeout (s : St) (k : Nat) : k < s.np → (s.ps k).pc = 1 →
      XStep L Q s (.timeout k) { s with ps := upd s.ps k (goto (s.ps k) 4) }
  /-- queue goroutine `i` (at q3/q4) hands its task to worker `j` (at w1/w2) -/
  | hand (s : St) (i j a b : Nat) : i < L → j < L → (s.qs i).pc = a → (a = 3 ∨ a = 4) →
      (s.ws j).pc = b → (b = 1 ∨ b = 2) →
      XStep L Q s .tau
        { s with qs := upd s.qs i (goto (s.qs i) 5), ws := upd s.ws j ⟨3, false, (s.qs i).held⟩ }
  /-- `Q = 0`: producer `k` hands its task directly to queue goroutine `i` -/
  | pHand (s : St) (k i : Nat) : k < s.np → i < L → Q = 0 → (s.ps k).pc = 1 → (s.qs i).pc = 0 →
      XStep L Q s .tau
        { s with accepted := s.accepted ++ [(s.ps k).held], ps := upd s.ps k (goto (s.ps k) 3),
                 qs := upd s.qs i ⟨1, false, (s.ps k).held⟩ }
  | dfltDone (s : St) (g : Gid) (a b : Nat) : s.live (cfg L Q) g → (s.get g).parked = false →
      s.cancelled = false → (s.get g).pc = a → dfltEdge g a b →
      XStep L Q s .tau (s.set g (goto (s.get g) b))
  | dfltQ (s : St) (i : Nat) : i < L → (s.qs i).parked = false → (s.qs i).pc = 3 →
      XStep L Q s .tau { s with qs := upd s.qs i (goto (s.qs i) 4) }
  | dfltW (s : St) (i : Nat) : i < L → (s.ws i).parked = false → (s.ws i).pc = 1 →
      XStep L Q s .tau { s with ws := upd s.ws i (goto (s.ws i) 2) }
  | park (s : St) (g : Gid) (a : Nat) : s.live (cfg L Q) g → (s.get g).parked = false →
      (s.get g).pc = a → parkPc g a →
      XStep L Q s .tau (s.set g { s.get g with parked := true })
  | incCnt (s : St) (i : Nat) : i < L → (s.qs i).pc = 1 →
      XStep L Q s .tau { s with cnt := s.cnt + 1, qs := upd s.qs i (goto (s.qs i) 2) }
  | decCnt (s : St) (i : Nat) : i < L → (s.qs i).pc = 5 →
      XStep L Q s .tau { s with cnt := s.cnt - 1, qs := upd s.qs i (goto (s.qs i) 0) }
  | start (s : St) (i : Nat) : i < L → (s.ws i).parked = false → (s.ws i).pc = 3 →
      XStep L Q s (.start i (s.ws i).held)
        { s with ws := upd s.ws i { s.ws i with parked := true },
                 started := s.started ++ [(s.ws i).held] }
  | finish (s : St) (i : Nat) (v : Option Nat) : i < L → (s.ws i).parked = true → (s.ws i).pc = 3 →
      XStep L Q s (.finish i (s.ws i).held v)
        { s with ws := upd s.ws i (goto (s.ws i) 0), finished := s.finished ++ [(s.ws i).held],
                 lastPanic := match v with | some x => some x | none => s.lastPanic,
                 panics := match v with | some x => s.panics ++ [x] | none => s.panics }
  | pushRet (s : St) (k a : Nat) (r : PushResult) : k < s.np → (s.ps k).pc = a →
      (a = 2 ∧ r = .ctxErr ∨ a = 3 ∧ r = .nil ∨ a = 4 ∧ r = .timeout) →
      XStep L Q s (.pushRet k (s.ps k).held r)
        { s with ps := upd s.ps k (goto (s.ps k) 5), results := s.results ++ [((s.ps k).held, r)] }



theorem cancelled_of_not_ready_done {c : Cfg} {s : St} {g : Gid} (h : ¬ ready c s g .done) :
    s.cancelled = false := by
  cases hc : s.cancelled with
  | false => rfl
  | true => exact (h (.inl ⟨Case.noConfusion, hc⟩)).elim

theorem Step.toX {s : St} {l : Label} {s' : St} (h : Step (cfg L Q) s l s') : XStep L Q s l s' := by
  cases h with
  | cancel hc => exact .cancel s hc
  | push t lane hl hf => exact .push s t lane hl hf
  | takeLocal g cs d k t hl hi hm hr =>
    cases k with
    | done => exact .done s g _ t hl hr rfl (doneAt hi hm)
    | timeout =>
      obtain ⟨k, rfl, hpc, rfl⟩ := timeoutAt hi hm
      exact .pTimeout s k hl hpc
    | recv x =>
      cases recvAt hi hm with
      | q0 i hpc =>
        have := XStep.qTake (L := L) (Q := Q) s i hl hpc hr
        simpa [localEffect, St.set, St.get, goto, St.lane, upd_upd] using this
      | w1 => exact hr.elim
      | w2o => exact hr.elim
      | w2u => exact hr.elim
    | send x =>
      cases sendAt hi hm with
      | p1 k hpc => exact .pSend s k hl hpc hr
      | q3 => exact hr.elim
      | q4o => exact hr.elim
      | q4u => exact hr.elim
  | handover g h cs d x tg th hl hi hm hq hne hpo =>
    obtain ⟨hlh, -, cs', hih, hmh, hch⟩ := hpo
    cases sendAt hi hm with
    | q3 i hpc =>
      cases recvAt hih hmh with
      | w2o j hpc' => exact .hand s i j 3 2 hl hlh hpc (.inl rfl) hpc' (.inr rfl)
    | q4o i hpc =>
      cases recvAt hih hmh with
      | w2o j hpc' => exact .hand s i j 4 2 hl hlh hpc (.inr rfl) hpc' (.inr rfl)
    | q4u i hpc =>
      cases recvAt hih hmh with
      | w2u j hpc' => exact .hand s i j 4 2 hl hlh hpc (.inr rfl) hpc' (.inr rfl)
    | p1 k hpc =>
      cases recvAt hih hmh with
      -- `(e :)`: elaborated first, so that the two states are unified once, not at every argument
      | q0 i hpc' => exact (XStep.pHand s k i hl hlh (hq rfl) hpc hpc' :)
  | takeover g h cs d x tg th hl hi hm hq hne hpo =>
    obtain ⟨hlh, -, cs', hih, hmh, hch⟩ := hpo
    cases sendAt hih hmh with
    | q4o i hpc =>
      cases recvAt hi hm with
      | w1 j hpc' => exact .hand s i j 4 1 hlh hl hpc (.inr rfl) hpc' (.inl rfl)
      | w2o j hpc' => exact .hand s i j 4 2 hlh hl hpc (.inr rfl) hpc' (.inr rfl)
    | q4u i hpc =>
      cases recvAt hi hm with
      | w2u j hpc' => exact .hand s i j 4 2 hlh hl hpc (.inr rfl) hpc' (.inr rfl)
    | p1 k hpc =>
      cases recvAt hi hm with
      | q0 i hpc' => exact (XStep.pHand s k i hlh hl (hq rfl) hpc hpc' :)
  | dflt g cs d hl hu hi hnr =>
    cases instr_at hi with
    | q2 i hpc =>
      exact .dfltDone s (.q i) 2 3 hl hu
        (cancelled_of_not_ready_done (hnr _ _ (.head _))) hpc ⟨rfl, rfl⟩
    | w0 i hpc =>
      exact .dfltDone s (.w i) 0 1 hl hu
        (cancelled_of_not_ready_done (hnr _ _ (.head _))) hpc ⟨rfl, rfl⟩
    | p0 k hpc =>
      exact .dfltDone s (.p k) 0 1 hl hu
        (cancelled_of_not_ready_done (hnr _ _ (.head _))) hpc ⟨rfl, rfl⟩
    | q3 i hpc => exact .dfltQ s i hl hu hpc
    | w1 i hpc => exact .dfltW s i hl hu hpc
  | park g cs hl hu hi hnr =>
    cases instr_at hi with
    | q0 i hpc => exact .park s (.q i) 0 hl hu hpc (.inl rfl)
    | q4 i hpc => exact .park s (.q i) 4 hl hu hpc (.inr rfl)
    | w2 i hpc => exact .park s (.w i) 2 hl hu hpc rfl
    | p1 k hpc => exact .park s (.p k) 1 hl hu hpc rfl
  | incCnt g n hl hi => cases instr_at hi with | q1 i hpc => exact .incCnt s i hl hpc
  | decCnt g n hl hi => cases instr_at hi with | q5 i hpc => exact .decCnt s i hl hpc
  | start i n hl hu hi => cases instr_at hi with | w3 _ hpc => exact .start s i hl hu hpc
  | finish i n v hl hu hi => cases instr_at hi with | w3 _ hpc => exact .finish s i v hl hu hpc
  | pushRet k a n r hk hi hr =>
    cases instr_at hi with
    | p2 _ hpc => exact .pushRet s k 2 r hk hpc (by simpa using hr)
    | p3 _ hpc => exact .pushRet s k 3 r hk hpc (by simpa using hr)
    | p4 _ hpc => exact .pushRet s k 4 r hk hpc (by simpa using hr)

end Glb.TaskLane
