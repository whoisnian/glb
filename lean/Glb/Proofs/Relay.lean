/-
  Helper lemmas for C15: the extracted parameters as a literal (`progNow`), symbolic execution of
  the handler under the "status set once" hypothesis, the closed form of `relay` (`relay_eq`), and
  interleavings of per-request logs (`Shuffle`).
-/
import Glb.Model.Relay

set_option linter.unusedSimpArgs false

namespace Glb.Relay

/-- the program the theorems are about: exactly what the extractor reads from /repo (`prog_eq`) -/
def progNow : Prog :=
  ⟨[.logBeg, .deferEnd, .deferRecover, .callHandler], some 4, some 4, some 12, some (0, 200),
    true, true, true, some 500, some 0, some (0, 200), true, some (0, 200)⟩

/-- the pinned commit: `Flush` did not record the implicit 200 -/
def progPinned : Prog := { progNow with flushImplicit := none }

theorem prog_eq : prog = progNow := by decide

theorem relay_now (thr : Nat) (req : Req) (beh : List Ev) :
    relay thr req beh = relayWith progNow thr req beh := by rw [relay, prog_eq]

theorem levelInfo_eq : levelInfo = 4 := by decide
theorem levelError_eq : levelError = 12 := by decide

theorem write_flush_set {st : Nat} (hs : st ≠ 0) :
    RW.write progNow ⟨st, some st⟩ = ⟨st, some st⟩ ∧ RW.flush progNow ⟨st, some st⟩ = ⟨st, some st⟩ := by
  simp [RW.write, RW.flush, progNow, hs, originWrite, originWriteHeader]

theorem runH_noHeader (es : List Ev) {st : Nat} (hn : noHeader es = true) (hs : st ≠ 0) :
    runH progNow es ⟨st, some st⟩ = (⟨st, some st⟩, panicOf es) := by
  induction es with
  | nil => rfl
  | cons e es ih =>
    cases e with
    | ret | panic v => rfl
    | writeHeader c => cases hn
    | write => exact (congrArg (runH progNow es) (write_flush_set hs).1).trans (ih hn)
    | flush => exact (congrArg (runH progNow es) (write_flush_set hs).2).trans (ih hn)

theorem runH_setOnce (beh : List Ev) (h1 : setOnce beh = true)
    (h0 : ∀ c, Ev.writeHeader c ∈ beh → c ≠ 0) :
    runH progNow beh {} =
      (match statusOf beh with
       | some c => { status := c, wire := some c }
       | none => {}, panicOf beh) := by
  cases beh with
  | nil => rfl
  | cons e es =>
    cases e with
    | ret | panic v => rfl
    | writeHeader c => exact runH_noHeader es h1 (h0 c (by simp))
    | write | flush => exact runH_noHeader es h1 (by decide : 200 ≠ 0)

theorem statusOf_ne_zero {beh : List Ev} (h0 : ∀ c, Ev.writeHeader c ∈ beh → c ≠ 0) {c : Nat}
    (hc : statusOf beh = some c) : c ≠ 0 := by
  unfold statusOf at hc
  split at hc <;> cases hc
  · exact h0 _ (by simp)
  · decide
  · decide

/-- Relay itself answers 500: a panic (other than ErrAbortHandler) while nothing was set -/
def sends500 (beh : List Ev) : Bool :=
  match statusOf beh, panicOf beh with
  | none, some (.other _) => true
  | _, _ => false

/-- the status the client receives, which is also the code REQ_END logs, from the behaviour alone:
    the handler's, else Relay's 500, else the server's implicit 200 -/
def wireOf (beh : List Ev) : Nat :=
  (statusOf beh).getD (if sends500 beh then 500 else 200)

/-- the Error record a behaviour produces (`C15.wantErr`, stated after this file, asks for just this list) -/
def errRecs (req : Req) (beh : List Ev) : List Rec :=
  match panicOf beh with
  | some (.other k) => [.error k req.id]
  | _ => []

theorem relay_eq (thr : Nat) (req : Req) (beh : List Ev) (h1 : setOnce beh = true) {lo hi : Nat}
    (hlo : 0 < lo) (hc : codesIn lo hi beh) :
    relay thr req beh =
      { log := (if thr ≤ 4 then [.reqBeg req] else []) ++
               (if thr ≤ 12 then errRecs req beh else []) ++
               (if thr ≤ 4 then [.reqEnd (wireOf beh) req] else [])
        wire := wireOf beh
        relay500 := sends500 beh
        escaped := none } := by
  have h0 : ∀ c, Ev.writeHeader c ∈ beh → c ≠ 0 := fun c hm => by have := hc c hm; omega
  have hc : ∀ c, statusOf beh = some c → c ≠ 0 := fun c => statusOf_ne_zero h0
  have hb : progNow.body = [.logBeg, .deferEnd, .deferRecover, .callHandler] := rfl
  simp only [relay_now, relayWith, hb, execBody, runH_setOnce beh h1 h0]
  -- status set or not, no panic / abort / any other panic, each level gate open or shut
  rcases hs : statusOf beh with _ | c <;> rcases hp : panicOf beh with _ | _ | k <;>
    by_cases h4 : thr ≤ 4 <;> by_cases h12 : thr ≤ 12 <;>
    simp [enabled, runDefers, recoverFn, endFn, handlePanic, wireOf, errRecs, sends500, hs, hp,
      hc, h4, h12, progNow, RW.httpError, RW.write, RW.writeHeader, originWrite, originWriteHeader]

theorem log_ids (thr : Nat) (req : Req) (beh : List Ev) (h1 : setOnce beh = true) {lo hi : Nat}
    (hlo : 0 < lo) (hc : codesIn lo hi beh) : ∀ r ∈ (relay thr req beh).log, r.id = req.id := by
  have he : ∀ r ∈ errRecs req beh, r.id = req.id := by
    unfold errRecs
    split <;> simp [Rec.id]
  rw [relay_eq thr req beh h1 hlo hc]
  intro r hr
  simp only [List.mem_append, List.mem_ite_nil_right, List.mem_singleton] at hr
  rcases hr with (⟨_, rfl⟩ | hr) | ⟨_, rfl⟩
  · rfl
  · exact he r hr.2
  · rfl

def upd {α} (f : Nat → α) (i : Nat) (x : α) : Nat → α := fun j => if j = i then x else f j

/-- `out` is an interleaving of the per-request logs `f 0, f 1, …` (each in its own order) -/
inductive Shuffle : (Nat → List Rec) → List Rec → Prop
  | done (f : Nat → List Rec) : (∀ i, f i = []) → Shuffle f []
  | step (f : Nat → List Rec) (i : Nat) (x : Rec) (rest out : List Rec) :
      f i = x :: rest → Shuffle (upd f i rest) out → Shuffle f (x :: out)

theorem shuffle_filter (ids : Nat → Bytes) (hinj : ∀ i j, ids i = ids j → i = j)
    (f : Nat → List Rec) (out : List Rec) (hs : Shuffle f out)
    (hid : ∀ i, ∀ r ∈ f i, r.id = ids i) :
    ∀ i, out.filter (fun r => r.id == ids i) = f i := by
  induction hs with
  | done f hnil => intro i; simp [hnil i]
  | step f k x rest out hk _ ih =>
    have hx : x.id = ids k := hid k x (by simp [hk])
    have ih := ih fun i r hr => hid i r <| by
      unfold upd at hr
      split at hr
      · next h => simp [h, hk, hr]
      · exact hr
    intro i
    rw [List.filter_cons, hx, ih i]
    by_cases hik : i = k
    · simp [hik, upd, hk]
    · have : ids k ≠ ids i := fun h => hik (hinj _ _ h).symm
      simp [hik, upd, this]

end Glb.Relay
