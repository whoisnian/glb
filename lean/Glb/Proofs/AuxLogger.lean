/- Lemmas about the `argsToAttrs` pairing and the fixed-width decimal writers. -/
import Glb.Model.AuxLogger
import Glb.Go.Lemmas

namespace Glb.Aux.Args
variable {σ α ν : Type}

/-- the loop takes one output at a time: the arguments `o.source` become `o`; a lone string is the
    last thing it takes -/
theorem argsToAttrs_source (o : Out σ α ν) (rest : List (Arg σ α ν)) (h : o.isBadStr = true → rest = []) :
    argsToAttrs (o.source ++ rest) = o :: argsToAttrs rest := by
  cases o with
  | badStr s => rw [h rfl]; rfl
  | pair k v => rfl
  | pass a => rfl
  | badAny v => rfl

theorem roles_source (o : Out σ α ν) (rest : List (Arg σ α ν)) (h : o.isBadStr = true → rest = []) :
    roles false (o.source ++ rest) = o.roles ++ roles false rest := by
  cases o with
  | badStr s => rw [h rfl]; rfl
  | pair k v => rfl
  | pass a => rfl
  | badAny v => rfl

theorem args_induction {P : List (Arg σ α ν) → Prop} (nil : P [])
    (step : ∀ (o : Out σ α ν) rest, (o.isBadStr = true → rest = []) → P rest → P (o.source ++ rest)) :
    ∀ xs, P xs
  | [] => nil
  | [.str s] => step (.badStr s) [] (fun _ => rfl) nil
  | .str s :: v :: rest => step (.pair s v) rest nofun (args_induction nil step rest)
  | .attr a :: rest => step (.pass a) rest nofun (args_induction nil step rest)
  | .other v :: rest => step (.badAny v) rest nofun (args_induction nil step rest)

theorem source_length (o : Out σ α ν) : 1 ≤ o.source.length ∧ o.source.length ≤ 2 := by
  cases o <;> simp [Out.source]

theorem argsToAttrs_cons (xs : List (Arg σ α ν)) (o : Out σ α ν) (os : List (Out σ α ν))
    (h : argsToAttrs xs = o :: os) :
    ∃ rest, xs = o.source ++ rest ∧ argsToAttrs rest = os ∧ (o.isBadStr = true → rest = []) := by
  cases xs using args_induction with
  | nil => cases h
  | step o' rest hb _ =>
    rw [argsToAttrs_source o' rest hb] at h
    cases h
    exact ⟨rest, rfl, rfl, hb⟩

end Glb.Aux.Args
namespace Glb.Aux.DateTime
open Glb

theorem pad_one (n : Nat) : pad 1 n = [digit n] := by simp [pad]
theorem pad_two (n : Nat) : pad 2 n = [digit (n / 10), digit n] := by simp [pad]
theorem pad_length (w n : Nat) : (pad w n).length = w := by
  fun_induction pad w n <;> simp_all

theorem smalls_eq : smalls = (List.range' 0 100).flatMap (pad 2) := by decide +kernel

theorem smalls_length : smalls.length = 200 := by decide +kernel

theorem smalls_table (i : Nat) (h : i < 100) : (smalls.drop (2 * i)).take 2 = [digit (i / 10), digit i] := by
  rw [smalls_eq, Go.flatMap_block (pad 2) 2 (pad_length 2) _ i (by simpa using h), pad_two]
  simp

theorem slice_pair (i : Nat) (h : i < 100) :
    sliceI? smalls ((i : Int) * 2) ((i : Int) * 2 + 2) = .ok (pad 2 i) := by
  have h1 : ¬ ((i : Int) * 2 < 0 ∨ (i : Int) * 2 + 2 < 0) := by omega
  have e1 : ((i : Int) * 2).toNat = 2 * i := by omega
  have e2 : ((i : Int) * 2 + 2).toNat = 2 * i + 2 := by omega
  have hl := smalls_length
  rw [sliceI?, if_neg h1, e1, e2, slice?, if_pos (by omega), Nat.add_sub_cancel_left, smalls_table i h, pad_two]

theorem slice_pair_panics (i : Int) (h : i < 0 ∨ 100 ≤ i) :
    ∃ p, sliceI? smalls (i * 2) (i * 2 + 2) = .error p := by
  have hl := smalls_length
  unfold sliceI?
  by_cases hn : i * 2 < 0 ∨ i * 2 + 2 < 0
  · exact ⟨_, if_pos hn⟩
  · rw [if_neg hn]
    unfold slice?
    rw [if_neg (by omega)]
    exact ⟨_, rfl⟩

theorem idx_digit (i : Nat) (h : i < 100) : idxI? smalls ((i : Int) * 2 + 1) = .ok (digit i) := by
  have h1 : ¬ ((i : Int) * 2 + 1 < 0) := by omega
  have e1 : ((i : Int) * 2 + 1).toNat = 2 * i + 1 := by omega
  have : smalls[2 * i + 1]? = some (digit i) := by
    have := congrArg (·[1]?) (smalls_table i h)
    simpa [List.getElem?_take, List.getElem?_drop] using this
  rw [idxI?, if_neg h1, e1, idx?, this]

theorem goDiv_nat (n : Nat) : goDiv (n : Int) 100 = ((n / 100 : Nat) : Int) := by
  simp [goDiv]

theorem width2_ok (buf : Bytes) (i : Nat) (h : i < 100) :
    appendIntWidth2 buf i = .ok (buf ++ pad 2 i) := by
  simp only [appendIntWidth2, slice_pair i h]; rfl

theorem width2_panics (buf : Bytes) (i : Int) (h : i < 0 ∨ 100 ≤ i) :
    ∃ p, appendIntWidth2 buf i = .error p := by
  obtain ⟨p, hp⟩ := slice_pair_panics i h
  exact ⟨p, by simp only [appendIntWidth2, hp]; rfl⟩

theorem pad_three (n : Nat) : pad 3 n = digit (n / 100) :: pad 2 n := by
  simp [pad, Nat.div_div_eq_div_mul]

theorem pad_four (n : Nat) : pad 4 n = pad 2 (n / 100) ++ pad 2 n := by
  simp [pad, Nat.div_div_eq_div_mul]

theorem digit_congr {a b : Nat} (h : a % 10 = b % 10) : digit a = digit b := by
  unfold digit; rw [h]

theorem pad_two_mod (n : Nat) : pad 2 (n % 100) = pad 2 n := by
  rw [pad_two, pad_two, digit_congr (a := n % 100 / 10) (b := n / 10) (by omega),
    digit_congr (Nat.mod_mod_of_dvd n (by decide : 10 ∣ 100))]

theorem width4_ok (buf : Bytes) (i : Nat) (h : i < 10000) :
    appendIntWidth4 buf i = .ok (buf ++ pad 4 i) := by
  have hl : i / 100 < 100 := by omega
  have hr : i % 100 < 100 := by omega
  have e : (i : Int) - ((i / 100 : Nat) : Int) * 100 = ((i % 100 : Nat) : Int) := by omega
  simp only [appendIntWidth4, goDiv_nat, e, slice_pair _ hl, slice_pair _ hr, pad_two_mod, pad_four]
  simp [bind, Except.bind, pure, Except.pure]

theorem width4_panics (buf : Bytes) (i : Int) (h : i < 0 ∨ 10000 ≤ i) :
    ∃ p, appendIntWidth4 buf i = .error p := by
  by_cases hl : goDiv i 100 < 0 ∨ 100 ≤ goDiv i 100
  · obtain ⟨p, hp⟩ := slice_pair_panics _ hl
    exact ⟨p, by simp only [appendIntWidth4, hp]; rfl⟩
  · -- the quotient is in range: `i` is negative and above -100, the quotient 0, the remainder `i`
    have h0 : goDiv i 100 = 0 ∧ i < 0 := by
      unfold goDiv at hl ⊢
      split at hl <;> omega
    obtain ⟨p, hp⟩ := slice_pair_panics i (.inl h0.2)
    simp only [appendIntWidth4, h0.1, Int.zero_mul, Int.sub_zero, hp]
    cases sliceI? smalls 0 (0 + 2) with
    | error q => exact ⟨q, rfl⟩
    | ok _ => exact ⟨p, rfl⟩

def inR (x : Int) : Prop := 0 ≤ x ∧ x < 100

/-- a writer that appends `pad w i` for `0 ≤ i < B` and panics otherwise, followed by `k` -/
theorem bind_ok_of_range (f : Bytes → Int → Except GoPanic Bytes) (w : Nat) (B : Int)
    (hok : ∀ buf (n : Nat), (n : Int) < B → f buf n = .ok (buf ++ pad w n))
    (hpanic : ∀ buf i, i < 0 ∨ B ≤ i → ∃ p, f buf i = .error p)
    (buf : Bytes) (i : Int) (k : Bytes → Except GoPanic Bytes) (r : Bytes) :
    (f buf i >>= k) = .ok r ↔ (0 ≤ i ∧ i < B) ∧ k (buf ++ pad w i.toNat) = .ok r := by
  by_cases h : 0 ≤ i ∧ i < B
  · obtain ⟨n, rfl⟩ := Int.eq_ofNat_of_zero_le h.1
    rw [hok buf n h.2]
    exact (and_iff_right h).symm
  · obtain ⟨p, hp⟩ := hpanic buf i (by omega)
    rw [hp]
    exact ⟨nofun, fun h' => absurd h'.1 h⟩

/-- the rendering `YYYY-MM-DD HH:MM:SS` -/
def render (Y M D h m s : Nat) : Bytes :=
  pad 4 Y ++ [45] ++ pad 2 M ++ [45] ++ pad 2 D ++ [32] ++ pad 2 h ++ [58] ++ pad 2 m ++ [58] ++ pad 2 s

def isDigitByte (b : UInt8) : Bool := 48 ≤ b && b ≤ 57

theorem digit_isDigit (n : Nat) : isDigitByte (digit n) = true := by
  have key : ∀ k < 10, isDigitByte (UInt8.ofNat (48 + k)) = true := by decide
  exact key _ (Nat.mod_lt _ (by decide))

/-- the number a string of ASCII decimal digits denotes, most significant digit first; the vocabulary in which
    the digit groups of `render` are read back (`decimal (pad w n) = n % 10^w`, in Glb/Props/AuxFns.lean) -/
def decimal (bs : Bytes) : Nat := bs.foldl (fun acc b => acc * 10 + (b.toNat - 48)) 0

theorem decimal_append (a : Bytes) (b : UInt8) : decimal (a ++ [b]) = decimal a * 10 + (b.toNat - 48) := by
  simp [decimal, List.foldl_append]

theorem digit_toNat (n : Nat) : (digit n).toNat - 48 = n % 10 := by
  have key : ∀ k < 10, (UInt8.ofNat (48 + k)).toNat - 48 = k := by decide
  exact key _ (Nat.mod_lt _ (by decide))

end Glb.Aux.DateTime
