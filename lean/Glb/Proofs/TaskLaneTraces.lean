/-
  Concrete executions of the TaskLane model, used as non-vacuity witnesses for the theorems of
  Props/C06b, C07, C08 (and as a sanity check that the model can run the expected scenarios).
  A run is its list of step labels, followed through the executable enumeration from `einit`
  (`Exec.reachable_run`) to an `ESt` that is shown to represent the named state; that a state is
  quiescent is decided on that `ESt` as well (`Exec.quiescent_of_enum`).  The "not ready" lemmas
  serve the runs of `Glb.Proofs.TaskLaneDemo`, which are built from explicit `Step`s.

  * `Trace.reach10`  : `cfg 1 1`, task 7 pushed, accepted, in the queue goroutine's hand at q3;
  * `Trace.reachA`   : … it is handed over, runs, returns, and the lane is at rest (accepted = started = [7]);
  * `Trace.reachB`   : … instead a second task is pushed while the only worker is pinned: the queue
                       goroutine blocks at q4 holding it (quiescent, pending = [8], worker running);
  * `Trace.reachC3/4`: `cfg 1 0`, cancel, both goroutines exit; then a PushTask begins.
-/
import Glb.Proofs.TaskLaneProgress
import Glb.Proofs.TaskLaneExec

namespace Glb.TaskLane
variable {L Q : Nat}

theorem not_ready_done {c : Cfg} {s : St} {g : Gid} (h : s.cancelled = false) : ¬ ready c s g .done := by
  rintro (⟨_, hl⟩ | hp)
  · simp [localReady, h] at hl
  · exact hp

/-- a worker's receive on `own`/`uni` is not ready when no queue goroutine is parked at q4 -/
theorem not_ready_recv_w {s : St} {j : Nat} {x : Ch} (hx : x ≠ .buf)
    (h : ∀ i, i < L → ¬ ((s.qs i).pc = 4 ∧ (s.qs i).parked = true)) :
    ¬ ready (cfg L Q) s (.w j) (.recv x) := by
  rintro (⟨_, hl⟩ | ⟨_, g, t, _, hg, hpk, cs, hi, hm, -⟩)
  · cases x <;> simp [localReady] at hl hx
  · cases sendAt hi hm with
    | q4o i hpc => exact h i hg ⟨hpc, hpk⟩
    | q4u i hpc => exact h i hg ⟨hpc, hpk⟩
    | p1 => exact hx rfl

/-- with a real buffer the producer's send is not ready on a full buffer -/
theorem not_ready_send_buf {s : St} {k : Nat} (hQ : Q ≠ 0) (h : Q ≤ (s.buf (s.plane k)).length) :
    ¬ ready (cfg L Q) s (.p k) (.send .buf) := by
  rintro (⟨_, hl⟩ | ⟨hq, _⟩)
  · simp [localReady, St.lane, cfg] at hl; omega
  · exact hQ (hq rfl)

/- no case of a select is ready, case by case -/
theorem none_ready_nil {c : Cfg} {s : St} {g : Gid} :
    ∀ k t, (k, t) ∈ ([] : List (Case × Nat)) → ¬ ready c s g k := nofun

theorem none_ready_cons {c : Cfg} {s : St} {g : Gid} {k : Case} {n : Nat} {cs : List (Case × Nat)}
    (h : ¬ ready c s g k) (hs : ∀ k' t, (k', t) ∈ cs → ¬ ready c s g k') :
    ∀ k' t, (k', t) ∈ (k, n) :: cs → ¬ ready c s g k' := by
  intro k' t hm
  cases hm with
  | head => exact h
  | tail _ hm => exact hs k' t hm

abbrev c11 : Cfg := cfg 1 1

theorem lt_one {P : Nat → Prop} (h : P 0) : ∀ i, i < 1 → P i
  | 0, _ => h

theorem lt_two {P : Nat → Prop} (h0 : P 0) (h1 : P 1) : ∀ i, i < 2 → P i
  | 0, _ => h0
  | 1, _ => h1

namespace Trace
/-! one lane, buffer of one.  The intermediate states are named so that terms stay small. -/
def s1 : St := { init with ws := upd init.ws 0 ⟨1, false, 0⟩ }
def s2 : St := { s1 with ws := upd s1.ws 0 ⟨2, false, 0⟩ }
def s3 : St := { s2 with ws := upd s2.ws 0 ⟨2, true, 0⟩ }
def s4 : St := { s3 with ps := upd s3.ps 0 ⟨0, false, 7⟩, plane := upd s3.plane 0 0, np := 1 }
def s5 : St := { s4 with ps := upd s4.ps 0 ⟨1, false, 7⟩ }
def s6 : St := { s5 with buf := upd s5.buf 0 [7], accepted := [7], ps := upd s5.ps 0 ⟨3, false, 7⟩ }
def s7 : St := { s6 with ps := upd s6.ps 0 ⟨5, false, 7⟩, results := [(7, .nil)] }
def s8 : St := { s7 with buf := upd s7.buf 0 [], qs := upd (upd s7.qs 0 ⟨0, false, 7⟩) 0 ⟨1, false, 7⟩ }
def s9 : St := { s8 with cnt := 1, qs := upd s8.qs 0 ⟨2, false, 7⟩ }
def s10 : St := { s9 with qs := upd s9.qs 0 ⟨3, false, 7⟩ }
def s11 : St := { s10 with qs := upd s10.qs 0 ⟨5, false, 7⟩, ws := upd s10.ws 0 ⟨3, false, 7⟩ }
def s12 : St := { s11 with cnt := 0, qs := upd s11.qs 0 ⟨0, false, 7⟩ }
def s13 : St := { s12 with qs := upd s12.qs 0 ⟨0, true, 7⟩ }
def s14 : St := { s13 with ws := upd s13.ws 0 ⟨3, true, 7⟩, started := [7] }

/-- worker: w0 → w1 → w2 → parks; PushTask(7, lane 0): p0 → p1 → buffered send → returns nil;
    queue goroutine: takes 7 from the buffer, cnt++, q2 → q3 -/
def to10 : List Exec.ELabel :=
  [.dflt (.w 0), .dflt (.w 0), .park (.w 0), .push 0 7 0, .dflt (.p 0), .takeLocal (.p 0) (.send .buf) 3,
   .pushRet 0 7 .nil, .takeLocal (.q 0) (.recv .buf) 1, .incCnt (.q 0), .dflt (.q 0)]

/-- from `s10`: the queue goroutine hands over to the parked worker, cnt--, parks at q0; the worker
    calls Start() -/
def to14 : List Exec.ELabel := [.handover (.q 0) (.w 0) .own, .decCnt (.q 0), .park (.q 0), .start 0 7]

def e10 : Exec.ESt :=
  { buf := #[[]], cnt := 1, qs := #[⟨3, false, 7⟩], ws := #[⟨2, true, 0⟩], ps := #[⟨5, false, 7⟩], plane := #[0],
    accepted := [7], results := [(7, .nil)] }

theorem rep10 : Exec.toSt e10 = s10 := by
  show St.mk .. = St.mk ..
  congr 1 <;> funext i <;> rcases i with _ | _ | i <;> rfl

theorem run10 : Reachable c11 (Exec.toSt e10) ∧ Exec.WF c11 e10 :=
  Exec.reachable_run (Exec.reachable_einit c11) (ls := to10) (by decide)

theorem reach10 : Reachable c11 s10 := rep10 ▸ run10.1

/-! branch A: the task returns, the worker goes back to w2 and parks: everything at rest -/
def a15 : St := { s14 with ws := upd s14.ws 0 ⟨0, false, 7⟩, finished := [7] }
def a16 : St := { a15 with ws := upd a15.ws 0 ⟨1, false, 7⟩ }
def a17 : St := { a16 with ws := upd a16.ws 0 ⟨2, false, 7⟩ }
def a18 : St := { a17 with ws := upd a17.ws 0 ⟨2, true, 7⟩ }

def eA : Exec.ESt :=
  { buf := #[[]], qs := #[⟨0, true, 7⟩], ws := #[⟨2, true, 7⟩], ps := #[⟨5, false, 7⟩], plane := #[0],
    accepted := [7], results := [(7, .nil)], started := [7], finished := [7] }

theorem repA : Exec.toSt eA = a18 := by
  show St.mk .. = St.mk ..
  congr 1 <;> funext i <;> rcases i with _ | _ | i <;> rfl

theorem runA : Reachable c11 (Exec.toSt eA) ∧ Exec.WF c11 eA :=
  Exec.reachable_run run10
    (ls := to14 ++ [.finish 0 7 none, .dflt (.w 0), .dflt (.w 0), .park (.w 0)]) (by decide)

theorem reachA : Reachable c11 a18 := repA ▸ runA.1

theorem quiescentA : Quiescent c11 a18 := Exec.quiescent_of_enum runA.2 repA (by decide)

/-! branch B: while task 7 is running (the only worker is pinned) a second task 8 is pushed; the
    queue goroutine takes it and blocks at q4 with nobody to hand it to -/
def b15 : St := { s14 with ps := upd s14.ps 1 ⟨0, false, 8⟩, plane := upd s14.plane 1 0, np := 2 }
def b16 : St := { b15 with ps := upd b15.ps 1 ⟨1, false, 8⟩ }
def b17 : St := { b16 with buf := upd b16.buf 0 [8], accepted := [7, 8], ps := upd b16.ps 1 ⟨3, false, 8⟩ }
def b18 : St := { b17 with ps := upd b17.ps 1 ⟨5, false, 8⟩, results := [(7, .nil), (8, .nil)] }
def b19 : St := { b18 with buf := upd b18.buf 0 [], qs := upd (upd b18.qs 0 ⟨0, true, 8⟩) 0 ⟨1, false, 8⟩ }
def b20 : St := { b19 with cnt := 1, qs := upd b19.qs 0 ⟨2, false, 8⟩ }
def b21 : St := { b20 with qs := upd b20.qs 0 ⟨3, false, 8⟩ }
def b22 : St := { b21 with qs := upd b21.qs 0 ⟨4, false, 8⟩ }
def b23 : St := { b22 with qs := upd b22.qs 0 ⟨4, true, 8⟩ }

def eB : Exec.ESt :=
  { buf := #[[]], cnt := 1, qs := #[⟨4, true, 8⟩], ws := #[⟨3, true, 7⟩],
    ps := #[⟨5, false, 7⟩, ⟨5, false, 8⟩], plane := #[0, 0], accepted := [7, 8],
    results := [(7, .nil), (8, .nil)], started := [7] }

theorem repB : Exec.toSt eB = b23 := by
  show St.mk .. = St.mk ..
  congr 1 <;> funext i <;> rcases i with _ | _ | i <;> rfl

theorem runB : Reachable c11 (Exec.toSt eB) ∧ Exec.WF c11 eB :=
  Exec.reachable_run run10
    (ls := to14 ++ [.push 1 8 0, .dflt (.p 1), .takeLocal (.p 1) (.send .buf) 3, .pushRet 1 8 .nil,
      .takeLocal (.q 0) (.recv .buf) 1, .incCnt (.q 0), .dflt (.q 0), .dflt (.q 0), .park (.q 0)]) (by decide)

theorem reachB : Reachable c11 b23 := repB ▸ runB.1

theorem quiescentB : Quiescent c11 b23 := Exec.quiescent_of_enum runB.2 repB (by decide)

/-! shutdown of an idle lane (`cfg 1 0`): cancel, both goroutines see `Done()` and exit -/
def c1 : St := { init with cancelled := true }
def c2 : St := { c1 with qs := upd c1.qs 0 ⟨6, false, 0⟩ }
def c3 : St := { c2 with ws := upd c2.ws 0 ⟨4, false, 0⟩ }
/-- `c3`, then a PushTask begins (after the cancellation) -/
def c4 : St := { c3 with ps := upd c3.ps 0 ⟨0, false, 7⟩, plane := upd c3.plane 0 0, np := 1 }

def eC3 : Exec.ESt := { cancelled := true, buf := #[[]], qs := #[⟨6, false, 0⟩], ws := #[⟨4, false, 0⟩] }

theorem repC3 : Exec.toSt eC3 = c3 := by
  show St.mk .. = St.mk ..
  congr 1 <;> funext i <;> rcases i with _ | _ | i <;> rfl

theorem runC3 : Reachable (cfg 1 0) (Exec.toSt eC3) ∧ Exec.WF (cfg 1 0) eC3 :=
  Exec.reachable_run (Exec.reachable_einit (cfg 1 0))
    (ls := [.cancel, .takeLocal (.q 0) .done 6, .takeLocal (.w 0) .done 4]) (by decide)

theorem reachC3 : Reachable (cfg 1 0) c3 := repC3 ▸ runC3.1

theorem reachC4 : Reachable (cfg 1 0) c4 :=
  .step _ _ _ reachC3 (Step.push _ 7 0 Nat.zero_lt_one (by intro k hk; exact absurd hk (Nat.not_lt_zero _)))

theorem quiescentC3 : Quiescent (cfg 1 0) c3 := Exec.quiescent_of_enum runC3.2 repC3 (by decide)

end Trace
end Glb.TaskLane
