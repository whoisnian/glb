/- Lemmas about the Camelize / IsDigitString / SliceContain models. -/
import Glb.Model.AuxStrutil
import Glb.Proofs.Config

namespace Glb.Aux.Str
open Glb.Config (isLower isUpper isDigit lower_not_upper lower_not_digit upper_not_digit recase_upper_lower)

theorem upper_add_lower (c : UInt8) (h : isUpper c = true) : isLower (c + 0x20) = true := by
  simp only [isLower, isUpper, Bool.and_eq_true, decide_eq_true_eq, UInt8.le_iff_toNat_le, UInt8.toNat_add,
    UInt8.reduceToNat] at *
  omega

theorem upper_not_lower (c : UInt8) (h : isUpper c = true) : isLower c = false :=
  Bool.eq_false_iff.2 fun hl => by rw [lower_not_upper c hl] at h; cases h

theorem toLower_of_not_upper (c : UInt8) (h : isUpper c = false) : toLowerByte c = c := by
  simp [toLowerByte, h]

theorem toUpper_of_not_lower (c : UInt8) (h : isLower c = false) : toUpperByte c = c := by
  simp [toUpperByte, h]

theorem toLower_of_lower (c : UInt8) (h : isLower c = true) : toLowerByte c = c :=
  toLower_of_not_upper c (lower_not_upper c h)

theorem toLower_lower (c : UInt8) (h : isLetter c = true) : isLower (toLowerByte c) = true := by
  cases hu : isUpper c
  · rw [toLower_of_not_upper c hu]; simpa [isLetter, hu] using h
  · simpa [toLowerByte, hu] using upper_add_lower c hu

theorem toUpper_upper (c : UInt8) (h : isLetter c = true) : isUpper (toUpperByte c) = true := by
  cases hl : isLower c
  · rw [toUpper_of_not_lower c hl]; simpa [isLetter, hl] using h
  · simpa [toUpperByte, hl] using recase_upper_lower c hl

theorem toLower_idem (c : UInt8) : toLowerByte (toLowerByte c) = toLowerByte c := by
  unfold toLowerByte
  by_cases h : isUpper c = true
  · simp [h, lower_not_upper _ (upper_add_lower c h)]
  · simp [h]

/-- the letter branch of the loop, in one line -/
def recaseTo (upper : Bool) (c : UInt8) : UInt8 := if upper then toUpperByte c else toLowerByte c

theorem recaseTo_letter (u : Bool) (c : UInt8) (h : isLetter c = true) : isLetter (recaseTo u c) = true := by
  cases u
  · simp [recaseTo, isLetter, toLower_lower c h]
  · simp [recaseTo, isLetter, toUpper_upper c h]

theorem recaseTo_idem (u : Bool) (c : UInt8) (h : isLetter c = true) : recaseTo u (recaseTo u c) = recaseTo u c := by
  cases u
  · simp [recaseTo, toLower_idem]
  · simp [recaseTo, toUpper_of_not_lower _ (upper_not_lower _ (toUpper_upper c h))]

theorem camelizeGo_letter {u ne : Bool} {c : UInt8} {rest : Bytes} (h : isLetter c = true) :
    camelizeGo u ne (c :: rest) = recaseTo u c :: camelizeGo false true rest := by
  cases hl : isLower c
  · have hu : isUpper c = true := by simpa [isLetter, hl] using h
    cases u <;> simp [camelizeGo, recaseTo, toUpperByte, toLowerByte, hl, hu]
  · cases u <;> simp [camelizeGo, recaseTo, toUpperByte, toLowerByte, hl, lower_not_upper c hl]

theorem camelizeGo_digit {u ne : Bool} {c : UInt8} {rest : Bytes} (h : isDigit c = true) :
    camelizeGo u ne (c :: rest) = c :: camelizeGo u true rest := by
  simp [camelizeGo, h, mt (lower_not_digit c) (by simp [h]), mt (upper_not_digit c) (by simp [h])]

theorem camelizeGo_sep {u ne : Bool} {c : UInt8} {rest : Bytes} (h : isAlnumByte c = false) :
    camelizeGo u ne (c :: rest) = camelizeGo (ne || u) ne rest := by
  simp only [isAlnumByte, Bool.or_eq_false_iff] at h
  simp [camelizeGo, h]

theorem byte_cases (c : UInt8) :
    isLetter c = true ∨ (isDigit c = true ∧ isLetter c = false) ∨ isAlnumByte c = false := by
  unfold isLetter isAlnumByte
  cases h1 : isLower c <;> cases h2 : isUpper c <;> cases h3 : isDigit c <;> simp

theorem letter_alnum (c : UInt8) (h : isLetter c = true) : isAlnumByte c = true := by
  simp only [isLetter] at h
  simp [isAlnumByte, h]

theorem camelizeGo_alnum (s : Bytes) : ∀ u ne,
    (∀ b ∈ camelizeGo u ne s, isAlnumByte b = true) ∧ (camelizeGo u ne s).length ≤ s.length := by
  induction s with
  | nil => simp [camelizeGo]
  | cons c rest ih =>
    intro u ne
    rcases byte_cases c with h | ⟨h, _⟩ | h
    · simpa [camelizeGo_letter h, letter_alnum _ (recaseTo_letter u c h)] using ih false true
    · simpa [camelizeGo_digit h, isAlnumByte, h] using ih u true
    · rw [camelizeGo_sep h]
      exact ⟨(ih _ _).1, Nat.le_succ_of_le (ih _ _).2⟩

theorem camelizeGo_false_alnum (t : Bytes) (ht : ∀ b ∈ t, isAlnumByte b = true) :
    ∀ ne, camelizeGo false ne t = t.map toLowerByte := by
  induction t with
  | nil => intro ne; rfl
  | cons c rest ih =>
    intro ne
    rw [List.forall_mem_cons] at ht
    rcases byte_cases c with h | ⟨h, hn⟩ | h
    · rw [camelizeGo_letter h, ih ht.2]; rfl
    · simp only [isLetter, Bool.or_eq_false_iff] at hn
      rw [camelizeGo_digit h, ih ht.2, List.map_cons, toLower_of_not_upper c hn.2]
    · rw [ht.1] at h; cases h

theorem capFirst_letter {u : Bool} {c : UInt8} {rest : Bytes} (h : isLetter c = true) :
    capFirst u (c :: rest) = recaseTo u c :: rest.map toLowerByte := by
  simp [capFirst, h, recaseTo]

theorem camelizeGo_alnum_input (t : Bytes) (ht : ∀ b ∈ t, isAlnumByte b = true) :
    ∀ u ne, camelizeGo u ne t = capFirst u t := by
  induction t with
  | nil => intro u ne; rfl
  | cons c rest ih =>
    intro u ne
    rw [List.forall_mem_cons] at ht
    rcases byte_cases c with h | ⟨h, hn⟩ | h
    · rw [camelizeGo_letter h, camelizeGo_false_alnum rest ht.2, capFirst_letter h]
    · rw [camelizeGo_digit h, ih ht.2]; simp [capFirst, hn]
    · rw [ht.1] at h; cases h

theorem capFirst_idem (u : Bool) (t : Bytes) : capFirst u (capFirst u t) = capFirst u t := by
  induction t with
  | nil => rfl
  | cons c rest ih =>
    cases h : isLetter c
    · simp [capFirst, h, ih]
    · simp [capFirst_letter, h, recaseTo_letter, recaseTo_idem, toLower_idem]

/-- `Camelize` is NOT idempotent ("a_b" ↦ "aB" ↦ "ab"), but it is on strings of letters and digits,
    where it is `capFirst`, so it is from the second application on -/
theorem camelize_stable (s : Bytes) (u : Bool) :
    camelize (camelize (camelize s u) u) u = camelize (camelize s u) u := by
  unfold camelize
  have e := camelizeGo_alnum_input _ (camelizeGo_alnum s u false).1 u false
  have h := (camelizeGo_alnum (camelizeGo u false s) u false).1
  rw [e] at h ⊢
  rw [camelizeGo_alnum_input _ h, capFirst_idem]

theorem camelize_skip_seps (pre : Bytes) (hp : ∀ b ∈ pre, isAlnumByte b = false) (u : Bool) (rest : Bytes) :
    camelizeGo u false (pre ++ rest) = camelizeGo u false rest := by
  induction pre with
  | nil => rfl
  | cons c pre ih =>
    rw [List.forall_mem_cons] at hp
    rw [List.cons_append, camelizeGo_sep hp.1]
    exact ih hp.2

theorem camelize_skip_nonletters (pre : Bytes) (hp : ∀ b ∈ pre, isLetter b = false) (rest : Bytes) :
    ∀ ne, camelizeGo true ne (pre ++ rest) = pre.filter isDigit ++ camelizeGo true (ne || pre.any isDigit) rest := by
  induction pre with
  | nil => intro ne; simp
  | cons c pre ih =>
    intro ne
    rw [List.forall_mem_cons] at hp
    rcases byte_cases c with h | ⟨h, _⟩ | h
    · rw [hp.1] at h; cases h
    · rw [List.cons_append, camelizeGo_digit h, ih hp.2]; simp [h]
    · rw [List.cons_append, camelizeGo_sep h, Bool.or_true, ih hp.2]
      simp only [isAlnumByte, Bool.or_eq_false_iff] at h
      simp [h.2]

theorem allDigitsGo_eq (s : Bytes) : allDigitsGo s = s.all isDigit := by
  induction s with
  | nil => rfl
  | cons c rest ih =>
    have : (c < 0x30 || c > 0x39) = !isDigit c := by simp [isDigit, Bool.not_and, ← decide_not, UInt8.not_le]
    simp [allDigitsGo, this, ih]

theorem sliceContain_iff (l : List Bytes) (v : Bytes) : sliceContain l v = true ↔ v ∈ l := by
  fun_induction sliceContain l v <;> simp_all

end Glb.Aux.Str
