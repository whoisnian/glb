/-
  Helper lemmas for C04, assembling the refinement: `findRoute` on a trie satisfying `TInv`
  is `specFind` on the route list (`findRoute_eq`, from `find_spec`), and one `Handle` call is `specRegister` (`handle_spec`).
-/
import Glb.Proofs.RouterSim

namespace Glb.Router
open Glb.RouteList (Elem Route PName Cand pattern pnames specFind specRegister)
open Glb.Generated (routeParam routeParamAny)

/-- routes with their ids: position in the list, counting from `i` -/
def indexFrom : Nat → List Route → List Entry
  | _, [] => []
  | i, r :: rs => (i, r) :: indexFrom (i + 1) rs

theorem indexFrom_append (i : Nat) (a b : List Route) :
    indexFrom i (a ++ b) = indexFrom i a ++ indexFrom (i + a.length) b := by
  induction a generalizing i with
  | nil => simp [indexFrom]
  | cons x a ih => simp [indexFrom, ih, Nat.add_assoc, Nat.add_comm 1]

theorem indexFrom_map_snd (i : Nat) (rs : List Route) : (indexFrom i rs).map (·.2) = rs := by
  induction rs generalizing i with
  | nil => rfl
  | cons r rs ih => simp [indexFrom, ih]

theorem candsFrom_eq (i : Nat) (rs : List Route) :
    RouteList.candsFrom i rs = candsAt (indexFrom i rs) [] [] := by
  induction rs generalizing i with
  | nil => rfl
  | cons r rs ih =>
    simp only [RouteList.candsFrom, indexFrom, candsAt, List.filterMap_cons]
    have : candOf [] [] (i, r) = some ⟨i, r.method, pattern r.pattern, []⟩ := by
      simp [candOf, candE, pnames]
    rw [this, ih (i + 1)]
    rfl

/-- Lookup on a trie satisfying the invariant, code and specification together: both choose the same
    registered route `o` (or none), one whose method is the request's or `*`, and the values `V` captured
    on the way are as many as that route has names. -/
theorem find_spec {routes : List Route} {t : Node} (h : TInv (indexFrom 0 routes) [] t) (path method : Bytes) :
    ∃ (o : Option Entry) (V : List Bytes),
      (∀ e, o = some e → e ∈ indexFrom 0 routes ∧ (e.2.method = method ∨ e.2.method = RouteList.methodAll) ∧
        (pnames (pattern e.2.pattern)).length = V.length) ∧
      specFind routes path method = o.map (fun e => ⟨e.1, (pnames (pattern e.2.pattern)).zip V⟩) ∧
      findRoute t path method {} = .ok (match o with
        | some e => (some e.1, ⟨namesOf (pattern e.2.pattern), V⟩)
        | none => (none, ⟨[], V⟩)) := by
  obtain ⟨o, V, ho, hs, hf⟩ := walk_spec h (RouteList.segments path) (segments_slashfree path) method
  have hgen : (RouteList.pickMethod (RouteList.walk (candsAt (indexFrom 0 routes) [] []) (RouteList.segments path)) method).map
      (fun c => (⟨c.id, c.binds⟩ : RouteList.Match)) = o.map (fun e => ⟨e.1, (pnames (pattern e.2.pattern)).zip V⟩) := by
    rw [hs, Option.map_map]; rfl
  have hlen : (normPath path).length = 1 ↔ RouteList.body path = [] := by
    rw [normPath_eq]; simp
  rw [findRoute_unfold, findGeneral_walk]
  unfold specFind
  rw [candsFrom_eq]
  by_cases hbody : RouteList.body path = []
  · -- "/" itself: the root's own method node first
    rw [if_pos (hlen.mpr hbody), if_pos hbody, pickMethod_candsAt_eq]
    have hn := h.methodNode_sel (ks := []) rfl method
    cases hs0 : selAny (indexFrom 0 routes) [] method with
    | none => rw [hs0] at hn; simp only [hn, Option.map_none]; exact ⟨o, V, ho, hgen, congrArg _ hf⟩
    | some e =>
      rw [hs0] at hn
      obtain ⟨nn, hc, hp⟩ := hn
      simp only [Router.pay, payOf, Prod.mk.injEq] at hp
      exact ⟨some e, [], fun e' he' => selAny_some (ks := []) rfl (hs0.trans he'), rfl, by simp only [hc, hp.1, hp.2]⟩
  · rw [if_neg (fun e => hbody (hlen.mp e)), if_neg hbody]
    exact ⟨o, V, ho, hgen, congrArg _ hf⟩

/-- `findRoute` on a trie satisfying the invariant is `specFind` on the route list -/
theorem findRoute_eq {routes : List Route} {t : Node} (h : TInv (indexFrom 0 routes) [] t)
    (path method : Bytes) :
    ∃ V', findRoute t path method {} = .ok (match specFind routes path method with
      | some mt => (some mt.id, { K := mt.binds.map (fun b => nameKey b.1), V := mt.binds.map (fun b => b.2) })
      | none => (none, { K := [], V := V' })) := by
  obtain ⟨o, V, ho, hs, hf⟩ := find_spec h path method
  refine ⟨V, ?_⟩
  rw [hf, hs]
  cases o with
  | none => rfl
  | some e =>
    have hlen := (ho e rfl).2.2
    have hK : ((pnames (pattern e.2.pattern)).zip V).map (fun b => nameKey b.1) = namesOf (pattern e.2.pattern) :=
      List.map_map.symm.trans (congrArg (List.map nameKey) (List.map_fst_zip (Nat.le_of_eq hlen)))
    simp only [Option.map_some, hK, List.map_snd_zip (Nat.le_of_eq hlen.symm)]

/-- the element of a shape that a key stands for -/
def keyElem (k : Bytes) : Elem :=
  if k = routeParam then .param [] else if k = routeParamAny then .star else .lit k

theorem shape_eq_keys {es : List Elem} (hg : GoodElems es) : RouteList.shape es = (keysOf es).map keyElem := by
  induction es with
  | nil => rfl
  | cons e r ih =>
    have ihr := ih fun s hs => hg s (List.mem_cons_of_mem _ hs)
    cases e with
    | lit s =>
      have hs := slashfree_ne_reserved (hg s List.mem_cons_self).2
      simp only [RouteList.shape, keysOf_cons, elemKey, List.map_cons, keyElem, hs.1, hs.2, if_false, ihr]
    | param n => simp only [RouteList.shape, keysOf_cons, elemKey, List.map_cons, keyElem, if_true, ihr]
    | star =>
      have hd : ¬ routeParamAny = routeParam := fun e => Tie.Httpd.reserved_distinct e.symm
      simp only [RouteList.shape, keysOf_cons, elemKey, List.map_cons, keyElem, hd, if_false, if_true, ihr]

theorem keysOf_shape (es : List Elem) : keysOf (RouteList.shape es) = keysOf es := by
  induction es with
  | nil => rfl
  | cons e r ih => cases e <;> simp only [RouteList.shape, keysOf_cons, elemKey, ih]

/-- two patterns lead to the same node exactly when they have the same shape: keys and shape determine each other -/
theorem keysOf_eq_iff_shape {a b : List Elem} (ha : GoodElems a) (hb : GoodElems b) :
    keysOf a = keysOf b ↔ RouteList.shape a = RouteList.shape b :=
  ⟨fun h => by rw [shape_eq_keys ha, shape_eq_keys hb, h], fun h => by rw [← keysOf_shape a, h, keysOf_shape]⟩

def errOf : RouteList.RegErr → RegErr
  | .invalidMethod => .invalidMethod
  | .invalidFragment => .invalidFragment
  | .duplicate => .duplicate

theorem regResult_eq_spec (S : List Entry) (hS : ∀ e ∈ S, (methodTag? e.2.method).isSome) (r : Route) :
    regResult S r = (specRegister (S.map (·.2)) r).mapError errOf := by
  have hm : methodTag? r.method = none ↔ r.method ∉ RouteList.knownMethods := by
    rw [← methodTag_isSome_iff]; cases methodTag? r.method <;> simp
  have key : ∀ e ∈ S, fullKeys e.2 = fullKeys r ↔
      RouteList.shape (pattern e.2.pattern) = RouteList.shape (pattern r.pattern) ∧ e.2.method = r.method := fun e he => by
    rw [← keysOf_eq_iff_shape (pattern_good _) (pattern_good _)]
    exact fullKeys_eq_iff (hS e he) _ _
  have hdup : (∃ e ∈ S, fullKeys e.2 = fullKeys r) ↔ ∃ r' ∈ S.map (·.2),
      RouteList.shape (pattern r'.pattern) = RouteList.shape (pattern r.pattern) ∧ r'.method = r.method := by
    constructor
    · rintro ⟨e, he, h⟩
      exact ⟨e.2, List.mem_map_of_mem he, (key e he).mp h⟩
    · rintro ⟨r', hr', h⟩
      obtain ⟨e, he, rfl⟩ := List.mem_map.mp hr'
      exact ⟨e, he, (key e he).mpr h⟩
  unfold regResult specRegister
  simp only [hm, hdup]
  split
  · rfl
  · split
    · rfl
    · split
      · rfl
      · exact congrArg Except.ok (List.length_map _)

/-- a pattern as the property quantifies over them: empty, or starting with '/' -/
def LeadingSlash (p : Bytes) : Prop := p = [] ∨ p.head? = some 47

instance (p : Bytes) : Decidable (LeadingSlash p) := by unfold LeadingSlash; infer_instance

/-- `mux.Handle(r.pattern, r.method, _)` -/
def regOf (r : Route) : Reg := ⟨r.pattern, r.method⟩

theorem slashed_of_leadingSlash {p : Bytes} (h : LeadingSlash p) : slashed p = p := by
  rcases h with rfl | h
  · rfl
  · cases p with
    | nil => rfl
    | cons b s => simp at h; simp [slashed, h]

theorem indexFrom_snoc (ok : List Route) (r : Route) :
    indexFrom 0 ok ++ [(ok.length, r)] = indexFrom 0 (ok ++ [r]) := by
  rw [indexFrom_append]; simp [indexFrom]

/-- one `Handle(p, m)` after the accepted routes `ok`, in terms of the route list: what it returns, and
    the invariant afterwards -/
theorem handle_spec {ok : List Route} {P : List (List Bytes)} {t : Node} (h : TInv (indexFrom 0 ok) P t)
    {p : Bytes} (hp : LeadingSlash p) (m : Bytes) (i : Nat) :
    ∃ t', parseRoute t p m i = .ok ⟨t', (specRegister ok ⟨p, m⟩).mapError errOf⟩ ∧
      match specRegister ok ⟨p, m⟩ with
      | .ok _ => TInv (indexFrom 0 ok ++ [(i, ⟨p, m⟩)]) P t'
      | .error _ => ∃ P', TInv (indexFrom 0 ok) P' t' := by
  obtain ⟨t', hpr, hinv⟩ := parseRoute_spec h p m i
  rw [slashed_of_leadingSlash hp, regResult_eq_spec _ h.known, indexFrom_map_snd] at hpr hinv
  refine ⟨t', hpr, ?_⟩
  cases hs : specRegister ok ⟨p, m⟩ with
  | ok n => rw [hs] at hinv; exact hinv
  | error e => rw [hs] at hinv; exact hinv

theorem specRegister_ok_valid {ok : List Route} {r : Route} {n : Nat} (h : specRegister ok r = .ok n) :
    RouteList.validPattern (pattern r.pattern) := by
  unfold specRegister at h
  split at h
  · cases h
  · split at h
    · cases h
    · next hv => exact Decidable.of_not_not hv

theorem mem_paramNames (es : List Elem) (n : Bytes) : n ∈ RouteList.paramNames es ↔ Elem.param n ∈ es := by
  induction es with
  | nil => simp [RouteList.paramNames]
  | cons e r ih => cases e <;> simp [RouteList.paramNames, ih]

theorem paramNames_slashfree (p : Bytes) : ∀ n ∈ RouteList.paramNames (pattern p), (47 : UInt8) ∉ n := by
  intro n hn
  obtain ⟨f, hf, hc⟩ := List.mem_map.mp (mem_cutStar ((mem_paramNames _ n).mp hn))
  have hg := fragments_good p f hf
  rcases classify_cases f hg.1 with ⟨_, h⟩ | ⟨n', rfl, _, h⟩ | ⟨_, _, _, _, _, h⟩
  · rw [h] at hc; cases hc
  · rw [h] at hc; cases hc
    exact fun h47 => hg.2 (List.mem_cons_of_mem _ h47)
  · rw [h] at hc; cases hc

theorem namesOf_sub (es : List Elem) : ∀ x ∈ namesOf es, x ∈ RouteList.paramNames es ∨ x = routeParamAny := by
  induction es with
  | nil => nofun
  | cons e r ih =>
    intro x hx
    cases e with
    | lit s => exact ih x hx
    | param n =>
      rcases List.mem_cons.mp hx with rfl | hx
      · exact Or.inl List.mem_cons_self
      · exact (ih x hx).imp (List.mem_cons_of_mem _) id
    | star =>
      rcases List.mem_cons.mp hx with rfl | hx
      · exact Or.inr rfl
      · exact ih x hx

/-- the names a valid pattern binds are pairwise distinct (`/:any` contains a slash, names do not) -/
theorem namesOf_nodup (p : Bytes) (hv : RouteList.validPattern (pattern p)) : (namesOf (pattern p)).Nodup := by
  have hsf := paramNames_slashfree p
  have hstar := pattern_starLast p
  revert hsf hstar hv
  generalize pattern p = es
  intro hv hsf hstar
  induction es with
  | nil => exact List.nodup_nil
  | cons e r ih =>
    have hstar' : StarLast r := fun n x hx => hstar (n + 1) x hx
    cases e with
    | lit s => exact ih hv hsf hstar'
    | star => rw [hstar 0 r rfl]; exact List.nodup_cons.mpr ⟨nofun, List.nodup_nil⟩
    | param n =>
      obtain ⟨hv1, hv2⟩ := hv
      have hnd := List.nodup_cons.mp hv2
      refine List.nodup_cons.mpr ⟨fun hmem => ?_, ih ⟨fun h => hv1 (List.mem_cons_of_mem _ h), hnd.2⟩
        (fun n' hn => hsf n' (List.mem_cons_of_mem _ hn)) hstar'⟩
      rcases namesOf_sub r n hmem with h | h
      · exact hnd.1 h
      · exact (slashfree_ne_reserved (hsf n List.mem_cons_self)).2 h

theorem indexFrom_getElem? (i k : Nat) (rs : List Route) :
    (indexFrom i rs)[k]? = rs[k]?.map (fun r => (i + k, r)) := by
  induction rs generalizing i k with
  | nil => rfl
  | cons r rs ih =>
    cases k with
    | zero => rfl
    | succ k => simp only [indexFrom, List.getElem?_cons_succ, ih, Nat.add_assoc, Nat.add_comm 1]

theorem mem_indexFrom_zero {rs : List Route} {e : Entry} : e ∈ indexFrom 0 rs ↔ rs[e.1]? = some e.2 := by
  simp only [List.mem_iff_getElem?, indexFrom_getElem?, Nat.zero_add]
  constructor
  · rintro ⟨k, hk⟩
    obtain ⟨r, hr, rfl⟩ := Option.map_eq_some_iff.mp hk
    exact hr
  · intro h; exact ⟨e.1, by rw [h]; rfl⟩

/-- the route `specFind` selects is a registered one with a matching method, and the names it
    binds are that route's names in pattern order -/
theorem specFind_sound {routes : List Route} {t : Node} (h : TInv (indexFrom 0 routes) [] t)
    {path method : Bytes} {mt : RouteList.Match} (hs : specFind routes path method = some mt) :
    ∃ r, routes[mt.id]? = some r ∧ (r.method = method ∨ r.method = RouteList.methodAll) ∧
      mt.binds.map (·.1) = pnames (pattern r.pattern) := by
  obtain ⟨o, V, ho, hspec, _⟩ := find_spec h path method
  rw [hs] at hspec
  obtain ⟨e, rfl, rfl⟩ := Option.map_eq_some_iff.mp hspec.symm
  obtain ⟨hmem, hm, hlen⟩ := ho e rfl
  exact ⟨e.2, mem_indexFrom_zero.mp hmem, hm, List.map_fst_zip (Nat.le_of_eq hlen)⟩

theorem firstIdx_getElem {K : List Bytes} (hnd : K.Nodup) (i : Nat) (hi : i < K.length) :
    firstIdx K[i] K = some i := by
  induction K generalizing i with
  | nil => simp at hi
  | cons k r ih =>
    cases i with
    | zero => simp [firstIdx]
    | succ j =>
      have hr := (List.nodup_cons.mp hnd)
      have hj : j < r.length := by simpa using hi
      have hne : ¬ k = r[j] := fun e => hr.1 (e ▸ List.getElem_mem hj)
      simp [firstIdx, hne, ih hr.2 j hj]

theorem firstIdx_none {K : List Bytes} {key : Bytes} (h : key ∉ K) : firstIdx key K = none := by
  induction K with
  | nil => rfl
  | cons k r ih =>
    simp only [List.mem_cons, not_or] at h
    have : ¬ k = key := fun e => h.1 e.symm
    simp [firstIdx, this, ih h.2]

theorem paramsGet_bound (K V : List Bytes) (hlen : K.length = V.length) (hnd : K.Nodup) (i : Nat) (hi : i < K.length) :
    paramsGet ⟨K, V⟩ K[i] = .ok (some (V[i]'(hlen ▸ hi))) := by
  unfold paramsGet
  simp only [firstIdx_getElem hnd i hi, idx?]
  have : V[i]? = some (V[i]'(hlen ▸ hi)) := by simp [hlen ▸ hi]
  simp [this, bind, Except.bind]

theorem paramsGet_unbound (K V : List Bytes) (key : Bytes) (h : key ∉ K) : paramsGet ⟨K, V⟩ key = .ok none := by
  simp [paramsGet, firstIdx_none h]

end Glb.Router
