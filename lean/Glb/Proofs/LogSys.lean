/-
  Helper lemmas for C02: the steps of the lock / pool / Write system as an inductive view of
  `stepG`, the protocol invariant and the accounting invariant (destination log ⊎ still-to-write =
  expected), both preserved by every enabled step.
-/
import Glb.Model.LogSys

namespace Glb.LogSys

variable {P : Params} {progs : List (List Op)} {s t s' : St} {g : Nat} {x x' : GState}

/-- `Step P s g x t x'`: goroutine `g` in local state `x` can step to `x'`, the shared state
    becoming `t` (before `g`'s slot is updated). One constructor per branch of `stepG`. -/
inductive Step (P : Params) (s : St) (g : Nat) : GState → St → GState → Prop
  | derive {q r b} : Step P s g ⟨.derive q :: r, .gate, b⟩ s ⟨r, .gate, b⟩
  | skip {c r b} : ¬P.threshold ≤ c.level → Step P s g ⟨.log c :: r, .gate, b⟩ s ⟨r, .gate, b⟩
  | gate {c r b} : P.threshold ≤ c.level →
      Step P s g ⟨.log c :: r, .gate, b⟩ s ⟨.log c :: r, .getBuf, b⟩
  | fresh {c r b} : Step P s g ⟨.log c :: r, .getBuf, b⟩ s ⟨.log c :: r, .format, ⟨[], P.initCap⟩⟩
  | reuse {c r b i b'} : s.pool[i]? = some b' →
      Step P s g ⟨.log c :: r, .getBuf, b⟩ { s with pool := s.pool.eraseIdx i }
        ⟨.log c :: r, .format, b'⟩
  | format {c r b} :
      Step P s g ⟨.log c :: r, .format, b⟩ s
        ⟨.log c :: r, .lock, b.appendLine P (P.render c.handler c.rid)⟩
  | lock {c r b} : s.owner = none →
      Step P s g ⟨.log c :: r, .lock, b⟩ { s with owner := some g } ⟨.log c :: r, .enter, b⟩
  | enter {c r b} :
      Step P s g ⟨.log c :: r, .enter, b⟩
        { s with inWrite := some g, overlap := s.overlap || s.inWrite.isSome }
        ⟨.log c :: r, .leave, b⟩
  | leave {c r b} :
      Step P s g ⟨.log c :: r, .leave, b⟩
        { s with inWrite := none, dest := s.dest ++ [⟨g, c.handler, c.rid, b.data⟩] }
        ⟨.log c :: r, .unlock, b⟩
  | unlock {c r b} :
      Step P s g ⟨.log c :: r, .unlock, b⟩ { s with owner := none } ⟨.log c :: r, .free, b⟩
  | free {c r b} :
      Step P s g ⟨.log c :: r, .free, b⟩
        { s with pool := if b.cap ≤ P.maxBuf then ⟨[], b.cap⟩ :: s.pool else s.pool }
        ⟨r, .gate, b⟩

theorem Step.of_stepG {ch : Option Nat} (h : stepG P s g x ch = some s') :
    ∃ t x', Step P s g x t x' ∧ s' = setG t g x' := by
  obtain ⟨prog, pc, b⟩ := x
  revert h
  -- the blocked branches go by `cases h`; what is left are the branches of `stepG` that step, in its
  -- order (`gate` before `skip`)
  fun_cases stepG P s g ⟨prog, pc, b⟩ ch <;> intro h <;> cases h <;> subst_vars
  · exact ⟨_, _, .derive, rfl⟩
  · exact ⟨_, _, .gate (of_decide_eq_true ‹_›), rfl⟩
  · exact ⟨_, _, .skip fun hl => ‹¬_› (decide_eq_true hl), rfl⟩
  · exact ⟨_, _, .fresh, rfl⟩
  · exact ⟨_, _, .reuse ‹_›, rfl⟩
  · exact ⟨_, _, .format, rfl⟩
  · exact ⟨_, _, .lock ‹_›, rfl⟩
  · exact ⟨_, _, .enter, rfl⟩
  · exact ⟨_, _, .leave, rfl⟩
  · exact ⟨_, _, .unlock, rfl⟩
  · exact ⟨_, _, .free, rfl⟩

theorem enabled_cases {l : Label} (h : (l, s') ∈ enabled P s) :
    (∃ g x t x', s.gs[g]? = some x ∧ Step P s g x t x' ∧ s' = setG t g x') ∨
    ∃ i, s' = { s with pool := s.pool.eraseIdx i } := by
  rcases List.mem_append.1 h with h | h
  · obtain ⟨g, _, hg⟩ := List.mem_flatMap.1 h
    split at hg
    · cases hg
    · rename_i x hx
      obtain ⟨ch, _, hs⟩ := List.mem_filterMap.1 hg
      obtain ⟨s'', hs, heq⟩ := Option.map_eq_some_iff.1 hs
      cases heq
      obtain ⟨t, x', hst, rfl⟩ := Step.of_stepG hs
      exact .inl ⟨g, x, t, x', hx, hst, rfl⟩
  · obtain ⟨i, _, hi⟩ := List.mem_map.1 h
    cases hi
    exact .inr ⟨i, rfl⟩

/-- what goroutine `g` in local state `x` knows, relative to the shared state -/
structure Local (P : Params) (s : St) (g : Nat) (x : GState) : Prop where
  /-- past the gate the current call is an enabled `log`; the buffer is empty before `format`
      and holds exactly the record's own line afterwards -/
  call : x.pc = .gate ∨ ∃ c rest, x.prog = .log c :: rest ∧ P.threshold ≤ c.level ∧
      (x.pc = .format → x.buf.data = []) ∧
      ((x.pc = .lock ∨ x.pc = .enter ∨ x.pc = .leave) → x.buf.data = P.render c.handler c.rid)
  /-- exactly the goroutine between `Lock()` and `Unlock()` owns the mutex -/
  owns : (x.pc = .enter ∨ x.pc = .leave ∨ x.pc = .unlock) ↔ s.owner = some g
  /-- exactly the goroutine inside `Write` is the marked writer -/
  writes : x.pc = .leave ↔ s.inWrite = some g

structure Invt (P : Params) (s : St) : Prop where
  loc : ∀ g x, s.gs[g]? = some x → Local P s g x
  pool : ∀ b ∈ s.pool, b.data = []
  noOverlap : s.overlap = false
  writerOwns : ∀ j, s.inWrite = some j → s.owner = some j

theorem invt_init (P : Params) (progs : List (List Op)) : Invt P (St.init progs) where
  loc g x hx := by
    rw [St.init, List.getElem?_map, Option.map_eq_some_iff] at hx
    obtain ⟨p, _, rfl⟩ := hx
    exact ⟨.inl rfl, iff_of_false nofun nofun, iff_of_false nofun nofun⟩
  pool := nofun
  noOverlap := rfl
  writerOwns := nofun

theorem Local.inCall {c r pc b} (h : Local P s g ⟨.log c :: r, pc, b⟩) (hpc : pc ≠ .gate) :
    P.threshold ≤ c.level ∧ (pc = .format → b.data = []) ∧
      (pc = .lock ∨ pc = .enter ∨ pc = .leave → b.data = P.render c.handler c.rid) := by
  rcases h.call with h0 | ⟨_, _, h1, h2⟩
  · exact absurd h0 hpc
  · cases h1
    exact h2

theorem ne_some_of_ne {a : Option Nat} {j : Nat} (ha : a = none ∨ a = some g) (hj : j ≠ g) :
    a ≠ some j :=
  fun h => ha.elim (fun h0 => nomatch h0.symm.trans h) fun hg => hj (Option.some.inj (h.symm.trans hg))

theorem Invt.notWriting (hinv : Invt P s) (hg : s.gs[g]? = some x) (hpc : x.pc ≠ .leave)
    (ho : s.owner = none ∨ s.owner = some g) : s.inWrite = none := by
  cases hw : s.inWrite with
  | none => rfl
  | some j =>
    have hj := hinv.writerOwns j hw
    by_cases h : j = g
    · exact absurd ((hinv.loc g x hg).writes.2 (h ▸ hw)) hpc
    · exact absurd hj (ne_some_of_ne ho h)

/-- goroutine `g` moves to `x'`, the shared state becomes `t`: what has to hold of `g` itself, of
    the mutex and the writer mark as the others see them, and of the pool -/
theorem Invt.set (hinv : Invt P s) (hg : s.gs[g]? = some x) (hgs : t.gs = s.gs)
    (hl : Local P t g x')
    (ho : ∀ j, j ≠ g → (t.owner = some j ↔ s.owner = some j))
    (hw : ∀ j, j ≠ g → (t.inWrite = some j ↔ s.inWrite = some j))
    (hp : ∀ b ∈ t.pool, b.data = []) (hov : t.overlap = false)
    (hwo : ∀ j, t.inWrite = some j → t.owner = some j) : Invt P (setG t g x') := by
  refine ⟨fun j y hj => ?_, hp, hov, hwo⟩
  rw [setG, hgs, List.getElem?_set] at hj
  split at hj
  · rename_i h
    subst h
    rw [if_pos (List.getElem?_eq_some_iff.1 hg).1] at hj
    cases hj
    exact ⟨hl.call, hl.owns, hl.writes⟩
  · rename_i h
    have hy := hinv.loc j y hj
    have hne : j ≠ g := fun e => h e.symm
    exact ⟨hy.call, hy.owns.trans (ho j hne).symm, hy.writes.trans (hw j hne).symm⟩

/-- a step from `pc` to `pc'`, both outside `Lock() … Unlock()`, that touches neither mutex nor
    writer mark: only the claim about the current call and the pool are to be shown -/
theorem Invt.quiet {prog prog' pc pc' b b'} {p : List Buf} (hinv : Invt P s)
    (hg : s.gs[g]? = some ⟨prog, pc, b⟩)
    (hpc : ¬(pc = .enter ∨ pc = .leave ∨ pc = .unlock))
    (hpc' : ¬(pc' = .enter ∨ pc' = .leave ∨ pc' = .unlock))
    (hc : pc' = .gate ∨ ∃ c rest, prog' = .log c :: rest ∧ P.threshold ≤ c.level ∧
      (pc' = .format → b'.data = []) ∧
      ((pc' = .lock ∨ pc' = .enter ∨ pc' = .leave) → b'.data = P.render c.handler c.rid))
    (hp : ∀ b ∈ p, b.data = []) : Invt P (setG { s with pool := p } g ⟨prog', pc', b'⟩) :=
  have hl := hinv.loc _ _ hg
  hinv.set hg rfl
    ⟨hc, iff_of_false hpc' fun ho => hpc (hl.owns.2 ho),
      iff_of_false (fun e => hpc' (.inr (.inl e))) fun hw => hpc (.inr (.inl (hl.writes.2 hw)))⟩
    (fun _ _ => .rfl) (fun _ _ => .rfl) hp hinv.noOverlap hinv.writerOwns

theorem invt_step {l : Label} (hinv : Invt P s) (h : (l, s') ∈ enabled P s) : Invt P s' := by
  rcases enabled_cases h with ⟨g, x, t, x', hg, hstep, rfl⟩ | ⟨i, rfl⟩
  · have hl := hinv.loc g x hg
    cases hstep with
    | derive | skip => exact hinv.quiet hg (by decide) (by decide) (.inl rfl) hinv.pool
    | gate hlv =>
      exact hinv.quiet hg (by decide) (by decide) (.inr ⟨_, _, rfl, hlv, nofun, nofun⟩) hinv.pool
    | fresh =>
      exact hinv.quiet hg (by decide) (by decide)
        (.inr ⟨_, _, rfl, (hl.inCall nofun).1, fun _ => rfl, nofun⟩) hinv.pool
    | @reuse _ _ _ _ b' hb =>
      exact hinv.quiet hg (by decide) (by decide)
        (.inr ⟨_, _, rfl, (hl.inCall nofun).1, fun _ => hinv.pool b' (List.mem_of_getElem? hb), nofun⟩)
        fun _ h => hinv.pool _ (List.mem_of_mem_eraseIdx h)
    | @format c _ b =>
      obtain ⟨hlv, hd, _⟩ := hl.inCall nofun
      have hd' : (b.appendLine P (P.render c.handler c.rid)).data = P.render c.handler c.rid :=
        (congrArg (· ++ _) (hd rfl)).trans (List.nil_append _)
      exact hinv.quiet hg (by decide) (by decide) (.inr ⟨_, _, rfl, hlv, nofun, fun _ => hd'⟩)
        hinv.pool
    | free =>
      refine hinv.quiet hg (by decide) (by decide) (.inl rfl) fun b' hb' => ?_
      split at hb'
      · rcases List.mem_cons.1 hb' with rfl | hb'
        · rfl
        · exact hinv.pool b' hb'
      · exact hinv.pool b' hb'
    | lock ho =>
      obtain ⟨hlv, _, hd⟩ := hl.inCall nofun
      have hnw := hinv.notWriting hg nofun (.inl ho)
      exact hinv.set hg rfl
        ⟨.inr ⟨_, _, rfl, hlv, nofun, fun _ => hd (.inl rfl)⟩, iff_of_true (.inl rfl) rfl,
          iff_of_false nofun fun h => nomatch hnw.symm.trans h⟩
        (fun j hj => iff_of_false (ne_some_of_ne (.inr rfl) hj) (ne_some_of_ne (.inl ho) hj))
        (fun _ _ => .rfl) hinv.pool hinv.noOverlap fun j h => nomatch hnw.symm.trans h
    | enter =>
      obtain ⟨hlv, _, hd⟩ := hl.inCall nofun
      have ho := hl.owns.1 (.inl rfl)
      have hnw := hinv.notWriting hg nofun (.inr ho)
      exact hinv.set hg rfl
        ⟨.inr ⟨_, _, rfl, hlv, nofun, fun _ => hd (.inr (.inl rfl))⟩, iff_of_true (.inr (.inl rfl)) ho,
          iff_of_true rfl rfl⟩
        (fun _ _ => .rfl)
        (fun j hj => iff_of_false (ne_some_of_ne (.inr rfl) hj) (ne_some_of_ne (.inl hnw) hj))
        hinv.pool (by rw [hinv.noOverlap, hnw]; rfl) fun j h => Option.some.inj h ▸ ho
    | leave =>
      have hw := hl.writes.1 rfl
      exact hinv.set hg rfl
        ⟨.inr ⟨_, _, rfl, (hl.inCall nofun).1, nofun, nofun⟩,
          iff_of_true (.inr (.inr rfl)) (hl.owns.1 (.inr (.inl rfl))), iff_of_false nofun nofun⟩
        (fun _ _ => .rfl)
        (fun j hj => iff_of_false (ne_some_of_ne (.inl rfl) hj) (ne_some_of_ne (.inr hw) hj))
        hinv.pool hinv.noOverlap nofun
    | unlock =>
      have ho := hl.owns.1 (.inr (.inr rfl))
      have hnw := hinv.notWriting hg nofun (.inr ho)
      exact hinv.set hg rfl
        ⟨.inr ⟨_, _, rfl, (hl.inCall nofun).1, nofun, nofun⟩, iff_of_false nofun nofun,
          iff_of_false nofun fun h => nomatch hnw.symm.trans h⟩
        (fun j hj => iff_of_false (ne_some_of_ne (.inl rfl) hj) (ne_some_of_ne (.inr ho) hj))
        (fun _ _ => .rfl) hinv.pool hinv.noOverlap fun j h => nomatch hnw.symm.trans h
  · exact ⟨fun g x hg => have hl := hinv.loc g x hg; ⟨hl.call, hl.owns, hl.writes⟩,
      fun _ h => hinv.pool _ (List.mem_of_mem_eraseIdx h), hinv.noOverlap, hinv.writerOwns⟩

theorem invt_reachable (h : Reachable P progs s) : Invt P s := by
  induction h with
  | init => exact invt_init P progs
  | step _ hstep ih => exact invt_step ih hstep

/-- the lines goroutine state `x` will still write -/
def todo (P : Params) (x : GState) : List Key :=
  match x.pc with
  | .unlock | .free => pending P x.prog.tail
  | _ => pending P x.prog

def Acct (P : Params) (progs : List (List Op)) (s : St) : Prop :=
  List.Perm (s.dest.map Entry.key ++ (s.gs.map (todo P)).flatten) (expected P progs)

theorem acct_init (P : Params) (progs : List (List Op)) : Acct P progs (St.init progs) := by
  rw [Acct, St.init, List.map_map]
  exact .refl _

theorem todo_nil (h : x.prog = []) : todo P x = [] := by
  unfold todo
  rw [h]
  split <;> rfl

theorem flatten_set_perm {α} {a b : List α} : ∀ {l : List (List α)} {g : Nat},
    l[g]? = some (a ++ b) → List.Perm (a ++ (l.set g b).flatten) l.flatten
  | hd :: tl, 0, h => by
    cases h
    exact .of_eq (List.append_assoc ..).symm
  | hd :: tl, g + 1, h =>
    (List.perm_append_comm_assoc ..).trans ((flatten_set_perm (l := tl) h).append_left hd)

/-- goroutine `g` moves to `x'`, the shared state becomes `t`: the keys `w` appended to the
    destination are the ones that leave `g`'s todo list -/
theorem Acct.set {w : List Key} (hacct : Acct P progs s) (hg : s.gs[g]? = some x)
    (hgs : t.gs = s.gs) (hd : t.dest.map Entry.key = s.dest.map Entry.key ++ w)
    (ht : todo P x = w ++ todo P x') : Acct P progs (setG t g x') := by
  have hp := flatten_set_perm (l := s.gs.map (todo P)) (g := g) (a := w) (b := todo P x')
    (by rw [List.getElem?_map, hg, ← ht]; rfl)
  rw [Acct, setG, hd, hgs, List.map_set, List.append_assoc]
  exact (hp.append_left _).trans hacct

theorem Acct.keep (hacct : Acct P progs s) (hg : s.gs[g]? = some x) (hgs : t.gs = s.gs)
    (hd : t.dest = s.dest) (ht : todo P x' = todo P x) : Acct P progs (setG t g x') :=
  hacct.set hg hgs (w := []) (by rw [hd, List.append_nil]) ht.symm

/-- the protocol invariant supplies the byte-equality of what `leave` writes -/
theorem acct_step {l : Label} (hinv : Invt P s) (hacct : Acct P progs s)
    (h : (l, s') ∈ enabled P s) : Acct P progs s' := by
  rcases enabled_cases h with ⟨g, x, t, x', hg, hstep, rfl⟩ | ⟨i, rfl⟩
  · cases hstep with
    | skip hlv =>
      exact hacct.keep hg rfl rfl (if_neg fun hw => hlv (of_decide_eq_true hw)).symm
    | @leave c =>
      obtain ⟨hlv, _, hd⟩ := (hinv.loc g _ hg).inCall nofun
      refine hacct.set hg rfl (w := [keyOf P c]) ?_ (if_pos (decide_eq_true hlv))
      rw [List.map_append, keyOf, ← hd (.inr (.inr rfl))]
      rfl
    | _ => exact hacct.keep hg rfl rfl rfl
  · exact hacct

theorem acct_reachable (h : Reachable P progs s) : Acct P progs s := by
  induction h with
  | init => exact acct_init P progs
  | step hr hstep ih => exact acct_step (invt_reachable hr) ih hstep

theorem mem_pending {k : Key} {p : List Op} (h : k ∈ pending P p) :
    ∃ c, Op.log c ∈ p ∧ P.threshold ≤ c.level ∧ k = keyOf P c := by
  fun_induction pending P p with
  | case1 => cases h
  | case2 q r ih => exact (ih h).imp fun _ hc => ⟨List.mem_cons_of_mem _ hc.1, hc.2⟩
  | case3 c r hw ih =>
    rcases List.mem_cons.1 h with rfl | h
    · exact ⟨c, List.mem_cons_self, of_decide_eq_true hw, rfl⟩
    · exact (ih h).imp fun _ hc => ⟨List.mem_cons_of_mem _ hc.1, hc.2⟩
  | case4 c r hw ih => exact (ih h).imp fun _ hc => ⟨List.mem_cons_of_mem _ hc.1, hc.2⟩

end Glb.LogSys
