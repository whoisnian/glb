/-
  Helper lemmas for C04: the two index loops of tree.go equal plain list functions.
  `findLoop` = trie walk over the segments; `parseLoop` = fold over the fragments.
  In particular every slice expression of the loops is in bounds.
-/
import Glb.Proofs.RouterTrie
import Glb.Spec.RouteList
namespace Glb.Router
open Glb

/-- `(a ++ b ++ c)[|a| : |a|+|b|] = b`, in bounds -/
theorem slice?_mid {α} {p : List α} {lo hi : Nat} (a b c : List α) (hp : p = a ++ (b ++ c)) (hlo : lo = a.length)
    (hhi : hi = lo + b.length) : slice? p lo hi = .ok b := by
  subst hp hlo hhi
  unfold slice?
  rw [if_pos ⟨Nat.le_add_right _ _, by simp only [List.length_append]; omega⟩, List.drop_left,
    Nat.add_sub_cancel_left, List.take_left]

theorem getElem?_append_length {α} (a b : List α) : (a ++ b)[a.length]? = b.head? := by
  rw [List.getElem?_append_right (Nat.le_refl _), Nat.sub_self, List.head?_eq_getElem?]

/-- the segments of the unread rest `s`, `cur` = the bytes of the current segment read so far;
    each segment with the rest of the path from its first byte -/
def segsAcc : Bytes → Bytes → List (Bytes × Bytes)
  | [], cur => [(cur, cur)]
  | b :: s, cur =>
    if b = 47 then (if cur = [] then segsAcc s [] else (cur, cur ++ b :: s) :: segsAcc s [])
    else segsAcc s (cur ++ [b])

/-- the greedy walk of `findRoute` over a list of segments -/
def walkT (node : Node) : List (Bytes × Bytes) → List Bytes → Option Node × List Bytes
  | [], V => (some node, V)
  | (seg, rest) :: more, V =>
    match node.child seg with
    | some res => walkT res more V
    | none =>
      match node.child Generated.routeParam with
      | some res => walkT res more (V ++ [seg])
      | none =>
        match node.child Generated.routeParamAny with
        | some res => (some res, V ++ [rest])
        | none => (none, V)

/-- Where the two index loops stand in `path`: `left` is at the byte before the current fragment (a '/',
    or the first byte, which is never looked at), `cur = path[left+1:right]` has been read and is
    slash-free so far, `s = path[right:]` is unread. -/
def At (path : Bytes) (left right : Nat) (cur s : Bytes) : Prop :=
  ∃ pre x, path = pre ++ x :: (cur ++ s) ∧ left = pre.length ∧ right = pre.length + 1 + cur.length

namespace At
variable {path : Bytes} {left right : Nat} {cur s : Bytes}

theorem mk (pre : Bytes) (x : UInt8) (cur s : Bytes) :
    At (pre ++ x :: (cur ++ s)) pre.length (pre.length + 1 + cur.length) cur s := ⟨pre, x, rfl, rfl, rfl⟩

theorem notSlash : At path left right cur s →
    notSlashAt path right = match s with
      | [] => false
      | b :: _ => b != 47 := by
  rintro ⟨pre, x, rfl, rfl, rfl⟩
  have := getElem?_append_length (pre ++ x :: cur) s
  rw [List.length_append, List.length_cons, ← Nat.add_assoc, Nat.add_right_comm] at this
  unfold notSlashAt
  rw [← List.cons_append, ← List.append_assoc, this]
  cases s <;> rfl

theorem slice (h : At path left right cur s) : slice? path (left + 1) right = .ok cur := by
  obtain ⟨pre, x, rfl, rfl, rfl⟩ := h
  exact slice?_mid (pre ++ [x]) cur s (by simp) (by simp) rfl

theorem tail (h : At path left right cur s) : slice? path (left + 1) path.length = .ok (cur ++ s) := by
  obtain ⟨pre, x, rfl, rfl, rfl⟩ := h
  exact slice?_mid (pre ++ [x]) (cur ++ s) [] (by simp) (by simp) (by simp; omega)

theorem sub (h : At path left right cur s) : right - left = cur.length + 1 := by
  obtain ⟨pre, x, rfl, rfl, rfl⟩ := h; omega

theorem length (h : At path left right cur s) : path.length = right + s.length := by
  obtain ⟨pre, x, rfl, rfl, rfl⟩ := h
  simp only [List.length_append, List.length_cons]; omega

/-- the next byte is not a '/': it joins the current fragment -/
theorem push {b : UInt8} (h : At path left right cur (b :: s)) : At path left (right + 1) (cur ++ [b]) s := by
  obtain ⟨pre, x, rfl, rfl, rfl⟩ := h
  exact ⟨pre, x, by simp, rfl, by simp only [List.length_append, List.length_singleton]; omega⟩

/-- the next byte is a '/': a new fragment starts behind it -/
theorem cut {b : UInt8} (h : At path left right cur (b :: s)) : At path right (right + 1) [] s := by
  obtain ⟨pre, x, rfl, rfl, rfl⟩ := h
  exact ⟨pre ++ x :: cur, b, by simp, by simp only [List.length_append, List.length_cons]; omega, by
    simp only [List.length_append, List.length_cons, List.length_nil]; omega⟩

end At

theorem findLoop_at (s : Bytes) : ∀ {path : Bytes} {left right : Nat} {cur : Bytes} (node : Node) (V : List Bytes),
    At path left right cur s →
    findLoop path (s.length + 1) left right node V = .ok (walkT node (segsAcc s cur) V) := by
  induction s with
  | nil =>
    intro path left right cur node V h
    have hlt : ¬ right < path.length := by rw [h.length]; exact Nat.lt_irrefl _
    have ht := h.tail
    rw [List.append_nil] at ht
    show findLoop path (0 + 1) left right node V = _
    rw [findLoop]
    simp only [h.notSlash, hlt, and_false, if_false, h.slice, ht, Bool.false_eq_true, bind, Except.bind,
      segsAcc, walkT, findLoop]
    cases node.child cur with
    | some r => rfl
    | none =>
      cases node.child Generated.routeParam with
      | some r => rfl
      | none => cases node.child Generated.routeParamAny <;> rfl
  | cons b s ih =>
    intro path left right cur node V h
    show findLoop path ((s.length + 1) + 1) left right node V = _
    rw [findLoop]
    by_cases hb : b = 47
    · subst hb
      have hlt : right < path.length := by rw [h.length]; exact Nat.lt_add_of_pos_right (Nat.succ_pos _)
      simp only [h.notSlash, bne_self_eq_false, Bool.false_eq_true, if_false, h.sub, hlt, and_true]
      by_cases hc : cur = []
      · subst hc
        simp only [List.length_nil, Nat.zero_add, Nat.lt_add_one, if_true, segsAcc]
        exact ih node V h.cut
      · have hc2 : ¬ (cur.length + 1 < 2) := by
          cases cur with
          | nil => exact absurd rfl hc
          | cons c r => simp
        simp only [hc2, if_false, h.slice, h.tail, bind, Except.bind, segsAcc, hc, if_true, walkT]
        cases node.child cur with
        | some r => exact ih r V h.cut
        | none =>
          cases node.child Generated.routeParam with
          | some r => exact ih r _ h.cut
          | none => cases node.child Generated.routeParamAny <;> rfl
    · have hb' : (b != 47) = true := bne_iff_ne.mpr hb
      simp only [h.notSlash, hb', if_true, segsAcc, hb, if_false]
      exact ih node V h.push

theorem findLoop_eq (s : Bytes) : ∀ (cur pre : Bytes) (x : UInt8) (node : Node) (V : List Bytes),
    findLoop (pre ++ x :: (cur ++ s)) (s.length + 1) pre.length (pre.length + 1 + cur.length) node V
      = .ok (walkT node (segsAcc s cur) V) :=
  fun cur pre x node V => findLoop_at s node V (At.mk pre x cur s)

/-- the non-empty fragments of the unread rest `s`; `cur` = the current fragment read so far -/
def fragsAcc : Bytes → Bytes → List Bytes
  | [], cur => if cur = [] then [] else [cur]
  | b :: s, cur =>
    if b = 47 then (if cur = [] then fragsAcc s [] else cur :: fragsAcc s [])
    else fragsAcc s (cur ++ [b])

/-- the fragment loop of `parseRoute` over a list of fragments -/
def parseFrags : List Bytes → List Bytes → List Bytes → ParseOut
  | [], ks, ns => ⟨ks, ns, true⟩
  | f :: fs, ks, ns =>
    if f = [42] then ⟨ks ++ [Generated.routeParamAny], ns ++ [Generated.routeParamAny], true⟩
    else match f with
      | 58 :: name =>
        if name = [] ∨ name ∈ ns then ⟨ks, ns, false⟩
        else parseFrags fs (ks ++ [Generated.routeParam]) (ns ++ [name])
      | _ => parseFrags fs (ks ++ [f]) ns

theorem At.idx {path : Bytes} {left right : Nat} {c : UInt8} {r s : Bytes} (h : At path left right (c :: r) s) :
    idx? path (left + 1) = .ok c := by
  obtain ⟨pre, x, rfl, rfl, rfl⟩ := h
  have := getElem?_append_length (pre ++ [x]) (c :: r ++ s)
  rw [List.length_append, List.length_singleton, List.append_assoc] at this
  unfold idx?
  rw [show pre ++ x :: (c :: r ++ s) = pre ++ ([x] ++ (c :: r ++ s)) from rfl, this]
  rfl

theorem At.slice2 {path : Bytes} {left right : Nat} {c : UInt8} {r s : Bytes} (h : At path left right (c :: r) s) :
    slice? path (left + 2) right = .ok r := by
  obtain ⟨pre, x, rfl, rfl, rfl⟩ := h
  exact slice?_mid (pre ++ [x, c]) r s (by simp) (by simp) (by simp; omega)

/-- one non-empty fragment `c :: r = path[left+1:right]`, ended by a '/' or by the end of the path -/
theorem parseLoop_body {path : Bytes} {left right : Nat} {c : UInt8} {r s : Bytes} (h : At path left right (c :: r) s)
    (hns : notSlashAt path right = false) (fuel : Nat) (rest : List Bytes)
    (hk : ∀ ks ns, parseLoop path fuel right (right + 1) ks ns = .ok (parseFrags rest ks ns))
    (ks ns : List Bytes) :
    parseLoop path (fuel + 1) left right ks ns = .ok (parseFrags ((c :: r) :: rest) ks ns) := by
  have hd : ¬ right - left < 2 := by rw [h.sub]; simp
  rw [parseLoop]
  simp only [hns, Bool.false_eq_true, if_false, hd, h.slice, h.idx, h.slice2, bind, Except.bind, parseFrags]
  by_cases h42 : c :: r = [42]
  · simp [h42]
  · simp only [h42, if_false]
    by_cases h58 : c = 58
    · subst h58
      simp only [if_true]
      by_cases hn : r = [] ∨ r ∈ ns
      · simp [hn]
      · simp only [hn, if_false]; exact hk _ _
    · simp only [h58, if_false]
      rw [hk]
      cases r <;> simp [h58]

theorem parseLoop_at (s : Bytes) : ∀ {path : Bytes} {left right : Nat} {cur : Bytes} (ks ns : List Bytes),
    At path left right cur s →
    parseLoop path (s.length + 1) left right ks ns = .ok (parseFrags (fragsAcc s cur) ks ns) := by
  induction s with
  | nil =>
    intro path left right cur ks ns h
    cases cur with
    | nil =>
      show parseLoop _ (0 + 1) _ _ _ _ = _
      rw [parseLoop]
      simp only [h.notSlash, Bool.false_eq_true, if_false, h.sub]
      simp [parseLoop, fragsAcc, parseFrags]
    | cons c r =>
      simp only [fragsAcc, reduceCtorEq, if_false]
      exact parseLoop_body h h.notSlash 0 [] (fun _ _ => rfl) ks ns
  | cons b s ih =>
    intro path left right cur ks ns h
    by_cases hb : b = 47
    · subst hb
      have hns : notSlashAt path right = false := by rw [h.notSlash]; rfl
      cases cur with
      | nil =>
        show parseLoop _ ((s.length + 1) + 1) _ _ _ _ = _
        rw [parseLoop]
        simp only [hns, Bool.false_eq_true, if_false, h.sub, fragsAcc, if_true, List.length_nil, Nat.zero_add,
          Nat.lt_add_one]
        exact ih ks ns h.cut
      | cons c r =>
        simp only [fragsAcc, reduceCtorEq, if_false, if_true]
        exact parseLoop_body h hns (s.length + 1) _ (fun ks ns => ih ks ns h.cut) ks ns
    · have hb' : (b != 47) = true := bne_iff_ne.mpr hb
      show parseLoop _ ((s.length + 1) + 1) _ _ _ _ = _
      rw [parseLoop]
      simp only [h.notSlash, hb', if_true, fragsAcc, hb, if_false]
      exact ih ks ns h.push

theorem parseLoop_eq (s : Bytes) : ∀ (cur pre : Bytes) (x : UInt8) (ks ns : List Bytes),
    parseLoop (pre ++ x :: (cur ++ s)) (s.length + 1) pre.length (pre.length + 1 + cur.length) ks ns
      = .ok (parseFrags (fragsAcc s cur) ks ns) :=
  fun cur pre x ks ns => parseLoop_at s ks ns (At.mk pre x cur s)

/-- the whole fragment loop of `parseRoute`: the first byte of the pattern is never looked at -/
theorem parseLoop_start (p : Bytes) :
    parseLoop p (p.length + 1) 0 0 [] [] = .ok (parseFrags (fragsAcc (p.drop 1) []) [] []) := by
  cases p with
  | nil => simp [parseLoop, notSlashAt, fragsAcc, parseFrags]
  | cons x s =>
    have h := parseLoop_at s [] [] (At.mk [] x [] s)
    show parseLoop (x :: s) ((s.length + 1) + 1) 0 0 [] [] = _
    rw [parseLoop]
    by_cases hx : notSlashAt (x :: s) 0 = true
    · simp only [hx, if_true]; exact h
    · simp only [hx]; exact h

theorem findLoop_start (s : Bytes) (node : Node) (V : List Bytes) :
    findLoop (47 :: s) ((47 :: s).length + 1) 0 0 node V = .ok (walkT node (segsAcc s []) V) := by
  have h := findLoop_at s node V (At.mk [] 47 [] s)
  show findLoop (47 :: s) ((s.length + 1) + 1) 0 0 node V = _
  rw [findLoop, show notSlashAt (47 :: s) 0 = false from rfl]
  exact h

theorem normPath_eq (p : Bytes) : normPath p = 47 :: RouteList.body p := by
  cases p with
  | nil => rfl
  | cons b r =>
    by_cases hb : b = 47
    · subst hb; simp [normPath, RouteList.body]
    · simp only [normPath, bne_iff_ne, ne_eq, hb, not_false_eq_true, if_true]
      unfold RouteList.body
      split
      · rename_i h; cases h; exact absurd rfl hb
      · rfl

/-- (the second branch is never taken: `splitSlash` yields at least one piece) -/
theorem fragsAcc_eq (s : Bytes) : ∀ cur : Bytes,
    fragsAcc s cur = (match RouteList.splitSlash s with
      | h :: t => (cur ++ h) :: t
      | [] => [cur]).filter (· ≠ []) := by
  induction s with
  | nil => intro cur; by_cases hc : cur = [] <;> simp [fragsAcc, RouteList.splitSlash, hc]
  | cons b s ih =>
    intro cur
    by_cases hb : b = 47
    · have h0 := ih []
      cases hs : RouteList.splitSlash s with
      | nil => rw [hs] at h0; by_cases hc : cur = [] <;> simp [fragsAcc, RouteList.splitSlash, hb, hc, h0, hs]
      | cons h t => rw [hs] at h0; by_cases hc : cur = [] <;> simp [fragsAcc, RouteList.splitSlash, hb, hc, h0, hs]
    · have h1 := ih (cur ++ [b])
      cases hs : RouteList.splitSlash s with
      | nil => rw [hs] at h1; simp [fragsAcc, RouteList.splitSlash, hb, hs, h1]
      | cons h t => rw [hs] at h1; simp [fragsAcc, RouteList.splitSlash, hb, hs, h1]

theorem fragsAcc_fragments (s : Bytes) : fragsAcc s [] = RouteList.fragments (47 :: s) := by
  rw [fragsAcc_eq]
  cases hs : RouteList.splitSlash s with
  | nil => simp [RouteList.fragments, RouteList.splitSlash, hs]
  | cons h t => simp [RouteList.fragments, RouteList.splitSlash, hs]

theorem fragments_empty : RouteList.fragments [] = [] := by
  simp [RouteList.fragments, RouteList.splitSlash]

theorem splitRest_head (s : Bytes) : ∃ h t, RouteList.splitRest s = (h, s) :: t := by
  induction s with
  | nil => exact ⟨[], [], rfl⟩
  | cons b s ih =>
    obtain ⟨h, t, hs⟩ := ih
    unfold RouteList.splitRest
    by_cases hb : b = 47
    · exact ⟨[], RouteList.splitRest s, by simp [hb]⟩
    · exact ⟨b :: h, t, by simp [hb, hs]⟩

theorem segsAcc_eq (s : Bytes) : ∀ (cur h : Bytes) (t : List (Bytes × Bytes)),
    RouteList.splitRest s = (h, s) :: t →
    segsAcc s cur = RouteList.dropEmptyButLast ((cur ++ h, cur ++ s) :: t) := by
  induction s with
  | nil =>
    intro cur h t hs
    simp only [RouteList.splitRest, List.cons.injEq, Prod.mk.injEq] at hs
    obtain ⟨⟨rfl, _⟩, rfl⟩ := hs
    simp [segsAcc, RouteList.dropEmptyButLast]
  | cons b s ih =>
    intro cur h t hs
    obtain ⟨h', t', hs'⟩ := splitRest_head s
    by_cases hb : b = 47
    · subst hb
      simp only [RouteList.splitRest, if_true, List.cons.injEq, Prod.mk.injEq] at hs
      obtain ⟨⟨rfl, _⟩, rfl⟩ := hs
      have h0 := ih [] h' t' hs'
      simp only [List.nil_append] at h0
      rw [hs']
      by_cases hc : cur = []
      · subst hc
        simp [segsAcc, RouteList.dropEmptyButLast, h0]
      · simp [segsAcc, RouteList.dropEmptyButLast, hc, h0]
    · simp only [RouteList.splitRest, hb, if_false, hs', List.cons.injEq, Prod.mk.injEq] at hs
      obtain ⟨⟨rfl, _⟩, rfl⟩ := hs
      have h1 := ih (cur ++ [b]) h' t' hs'
      simp [segsAcc, hb, h1]

theorem segsAcc_segments (p : Bytes) : segsAcc (RouteList.body p) [] = RouteList.segments p := by
  obtain ⟨h, t, hs⟩ := splitRest_head (RouteList.body p)
  rw [segsAcc_eq _ [] h t hs, RouteList.segments, hs]
  simp

theorem segsAcc_slashfree (s : Bytes) : ∀ cur : Bytes, (47 : UInt8) ∉ cur →
    ∀ sg ∈ segsAcc s cur, (47 : UInt8) ∉ sg.1 := by
  induction s with
  | nil => intro cur hc sg hs; simp [segsAcc] at hs; subst hs; exact hc
  | cons b s ih =>
    intro cur hc sg hs
    unfold segsAcc at hs
    by_cases hb : b = 47
    · simp only [hb, if_true] at hs
      by_cases hcur : cur = []
      · simp only [hcur, if_true] at hs; exact ih [] (by simp) sg hs
      · simp only [hcur, if_false, List.mem_cons] at hs
        rcases hs with rfl | hs
        · exact hc
        · exact ih [] (by simp) sg hs
    · simp only [hb, if_false] at hs
      refine ih (cur ++ [b]) ?_ sg hs
      simp only [List.mem_append, List.mem_singleton, not_or]
      exact ⟨hc, fun e => hb e.symm⟩

theorem segments_slashfree (path : Bytes) : ∀ sg ∈ RouteList.segments path, (47 : UInt8) ∉ sg.1 := by
  rw [← segsAcc_segments]; exact segsAcc_slashfree _ [] (by simp)

/-- the part of `findRoute` after the root special case -/
def findGeneral (root : Node) (path method : Bytes) (ps : Params) : Except GoPanic (Option RouteId × Params) := do
  let (on, V) ← findLoop path (path.length + 1) 0 0 root ps.V
  match on with
  | none => .ok (none, { ps with V := V })
  | some node =>
    match methodNodeOrNil node method with
    | some n => .ok (n.info, { K := n.params, V := V })
    | none => .ok (none, { ps with V := V })

theorem findRoute_unfold (root : Node) (path0 method : Bytes) (ps : Params) :
    findRoute root path0 method ps =
      if (normPath path0).length = 1 then
        match methodNodeOrNil root method with
        | some n => .ok (n.info, { ps with K := n.params })
        | none => findGeneral root (normPath path0) method ps
      else findGeneral root (normPath path0) method ps := rfl

/-- what `findRoute` returns once the walk has ended at the node `on` with the values `V` -/
def finishWalk (ps : Params) (method : Bytes) : Option Node × List Bytes → Option RouteId × Params
  | (none, V) => (none, { ps with V := V })
  | (some node, V) =>
    match methodNodeOrNil node method with
    | some n => (n.info, { K := n.params, V := V })
    | none => (none, { ps with V := V })

/-- the general part of `findRoute` never panics: it is the greedy walk over the segments of the path,
    then the method choice -/
theorem findGeneral_walk (t : Node) (path method : Bytes) (ps : Params) :
    findGeneral t (normPath path) method ps
      = .ok (finishWalk ps method (walkT t (RouteList.segments path) ps.V)) := by
  unfold findGeneral
  rw [normPath_eq, findLoop_start, segsAcc_segments]
  cases walkT t (RouteList.segments path) ps.V with
  | mk on V =>
    cases on with
    | none => rfl
    | some n => simp only [bind, Except.bind, finishWalk]; cases methodNodeOrNil n method <;> rfl

/-- `findRoute` on any trie: the greedy walk over slash-free segments (none at all when the root's own method node
    answers "/"), then the method choice -/
theorem findRoute_walk (t : Node) (path method : Bytes) (ps : Params) :
    ∃ segs, (∀ sg ∈ segs, (47 : UInt8) ∉ sg.1) ∧
      findRoute t path method ps = .ok (finishWalk ps method (walkT t segs ps.V)) := by
  rw [findRoute_unfold, findGeneral_walk]
  split
  · cases hm : methodNodeOrNil t method with
    | some n => exact ⟨[], nofun, by simp only [walkT, finishWalk, hm]⟩
    | none => exact ⟨_, segments_slashfree path, rfl⟩
  · exact ⟨_, segments_slashfree path, rfl⟩

/-- `findRoute` never panics, on any trie -/
theorem findRoute_ok (t : Node) (path method : Bytes) (ps : Params) : ∃ r, findRoute t path method ps = .ok r :=
  let ⟨_, _, h⟩ := findRoute_walk t path method ps
  ⟨_, h⟩

theorem finishWalk_V (ps : Params) (method : Bytes) (w : Option Node × List Bytes) :
    (finishWalk ps method w).2.V = w.2 := by
  obtain ⟨on, V⟩ := w
  cases on with
  | none => rfl
  | some n => simp only [finishWalk]; cases methodNodeOrNil n method <;> rfl

end Glb.Router
