/-
  Helper lemmas for C03: the frame property of `append` on private slices, the state invariant
  of histories, prefix-stability of the forest, the isolated replay.
-/
import Glb.Model.DeriveSlices

namespace Glb.Derive

def WfSlice (H : Heap) (s : Slice) : Prop :=
  s.arr < H.next ∧ s.len ≤ s.cap ∧ s.cap ≤ (H.mem s.arr).length

/-- the slice cannot write into an array older than `base`: its array is newer, or it has no
    spare capacity (what `slices.Clip` establishes) -/
def Private (base : Nat) (s : Slice) : Prop := base ≤ s.arr ∨ s.cap = s.len

/-- arrays older than `base` are untouched and nothing is freed -/
def Frame (base : Nat) (H H' : Heap) : Prop :=
  H.next ≤ H'.next ∧ ∀ a, a < base → H'.mem a = H.mem a

theorem Frame.refl {base : Nat} {H : Heap} : Frame base H H := ⟨Nat.le_refl _, fun _ _ => rfl⟩

theorem Frame.trans {base : Nat} {H₁ H₂ H₃ : Heap} (h₁ : Frame base H₁ H₂) (h₂ : Frame base H₂ H₃) :
    Frame base H₁ H₃ :=
  ⟨Nat.le_trans h₁.1 h₂.1, fun a ha => (h₂.2 a ha).trans (h₁.2 a ha)⟩

theorem upd_self (m : Nat → Bytes) (a : Nat) (v : Bytes) : upd m a v a = v := if_pos rfl

theorem frame_upd {base : Nat} (H : Heap) (a : Nat) (v : Bytes) {n : Nat} (hn : H.next ≤ n)
    (h : a < base → v = H.mem a) : Frame base H ⟨upd H.mem a v, n⟩ := by
  refine ⟨hn, fun b hb => ?_⟩
  show upd H.mem a v b = H.mem b
  unfold upd
  split
  · next e => exact e ▸ h (e ▸ hb)
  · rfl

theorem writeAt_nil (a : Bytes) (pos : Nat) : writeAt a pos [] = a := by
  rw [writeAt, List.append_nil, List.length_nil, Nat.add_zero, List.take_append_drop]

/-- both branches of `append` store `old[0:len] ++ bs ++ rest` into some array `a`; the slice made
    of its first `len + |bs|` cells denotes the old bytes followed by `bs` -/
theorem stored_slice {m : Nat → Bytes} {a n len cap : Nat} (old bs rest : Bytes)
    (hl : len ≤ old.length) (ha : a < n) (h1 : len + bs.length ≤ cap)
    (h2 : cap ≤ len + bs.length + rest.length) :
    WfSlice ⟨upd m a (old.take len ++ bs ++ rest), n⟩ ⟨a, len + bs.length, cap⟩ ∧
    Slice.bytes ⟨upd m a (old.take len ++ bs ++ rest), n⟩ ⟨a, len + bs.length, cap⟩ =
      old.take len ++ bs := by
  refine ⟨⟨ha, h1, ?_⟩, ?_⟩
  · show cap ≤ (upd m a _ a).length
    rw [upd_self, List.length_append, List.length_append, List.length_take_of_le hl]
    exact h2
  · show (upd m a _ a).take _ = _
    rw [upd_self]
    exact List.take_left' (by rw [List.length_append, List.length_take_of_le hl])

/-- **the frame lemma of `append`.**  On a private slice, `append` (in place or reallocating, with
    any growth policy) leaves every array older than `base` untouched, yields a private slice
    again, and the result denotes the old bytes followed by the new ones. -/
theorem append_spec {g : Policy} {H : Heap} {s : Slice} {base : Nat} (bs : Bytes)
    (hwf : WfSlice H s) (hp : Private base s) (hb : base ≤ H.next) :
    Frame base H (append g H s bs).1 ∧ WfSlice (append g H s bs).1 (append g H s bs).2 ∧
    Private base (append g H s bs).2 ∧
    (append g H s bs).2.bytes (append g H s bs).1 = s.bytes H ++ bs := by
  obtain ⟨h1, h2, h3⟩ := hwf
  have hl : s.len ≤ (H.mem s.arr).length := Nat.le_trans h2 h3
  unfold append
  split
  · next hfit =>
    -- a clipped slice with room for `bs`: there is nothing to write
    have hnil : s.cap = s.len → bs = [] := fun hc => List.eq_nil_of_length_eq_zero
      (Nat.add_eq_left.1 (Nat.le_antisymm (hc ▸ hfit) (Nat.le_add_right _ _)))
    obtain ⟨w, b⟩ := stored_slice (m := H.mem) (n := H.next) _ bs _ hl h1 hfit
      (by rw [List.length_drop, Nat.add_sub_cancel' (Nat.le_trans hfit h3)]; exact h3)
    refine ⟨frame_upd H _ _ (Nat.le_refl _) fun ha => ?_, w, hp.imp_right fun hc => ?_, b⟩
    · rw [hnil (hp.resolve_left (Nat.not_le.2 ha)), writeAt_nil]
    · rw [hnil hc]
      exact hc
  · obtain ⟨w, b⟩ := stored_slice (m := H.mem) _ bs _ hl (Nat.lt_succ_self H.next)
      (Nat.le_add_right _ _) (Nat.le_of_eq (congrArg _ List.length_replicate.symm))
    exact ⟨frame_upd H _ _ (Nat.le_succ _) fun ha => absurd hb (Nat.not_le.2 ha), w, Or.inl hb, b⟩

theorem appendMany_spec (g : Policy) (base : Nat) (chunks : List Bytes) :
    ∀ (H : Heap) (s : Slice), WfSlice H s → Private base s → base ≤ H.next →
    Frame base H (appendMany g H s chunks).1 ∧
    WfSlice (appendMany g H s chunks).1 (appendMany g H s chunks).2 ∧
    (appendMany g H s chunks).2.bytes (appendMany g H s chunks).1 = s.bytes H ++ chunks.flatten := by
  induction chunks with
  | nil => intro H s hwf _ _; exact ⟨Frame.refl, hwf, (List.append_nil _).symm⟩
  | cons c cs ih =>
    intro H s hwf hp hb
    obtain ⟨f1, w1, p1, b1⟩ := append_spec c hwf hp hb
    obtain ⟨f2, w2, b2⟩ := ih _ _ w1 p1 (Nat.le_trans hb f1.1)
    refine ⟨Frame.trans f1 f2, w2, ?_⟩
    rw [List.flatten_cons, ← List.append_assoc, ← b1]
    exact b2

theorem wf_clip {H : Heap} {s : Slice} (h : WfSlice H s) : WfSlice H s.clip :=
  ⟨h.1, Nat.le_refl _, Nat.le_trans h.2.1 h.2.2⟩

theorem bytes_clip (H : Heap) (s : Slice) : s.clip.bytes H = s.bytes H := rfl

theorem frame_keeps {H H' : Heap} {h : Handler} (hf : Frame H.next H H') (hwf : WfSlice H h.pre) :
    WfSlice H' h.pre ∧ h.view H' = h.view H := by
  have hm := hf.2 _ hwf.1
  exact ⟨⟨Nat.lt_of_lt_of_le hwf.1 hf.1, hwf.2.1, hm ▸ hwf.2.2⟩,
    congrArg (fun m => PView.mk (m.take h.pre.len) h.shape) hm⟩

variable {α : Type} {R : Renderer α} {c : Bool} {g : Policy} {k : Kind}

theorem pureStep_withAttrs_nil (v : PView) : pureStep R v (.withAttrs []) = v := by
  simp only [pureStep, attrsChunks, List.flatten_nil, List.append_nil]

/-- **derive with clipping**: no existing array is written, and the child's view is the parent's
    view extended purely. -/
theorem derive_spec {H : Heap} {h : Handler} (op : DOp α) (hwf : WfSlice H h.pre) :
    Frame H.next H (derive R true g H h op).1 ∧
    WfSlice (derive R true g H h op).1 (derive R true g H h op).2.pre ∧
    (derive R true g H h op).2.view (derive R true g H h op).1 = pureStep R (h.view H) op := by
  obtain ⟨pre, shape⟩ := h
  -- appending to the clipped clone writes no existing array
  have clip := fun chunks =>
    appendMany_spec g H.next chunks H pre.clip (wf_clip hwf) (Or.inr rfl) (Nat.le_refl _)
  cases op with
  | withAttrs as =>
    cases as with
    | nil => exact ⟨Frame.refl, hwf, (pureStep_withAttrs_nil _).symm⟩
    | cons a as =>
      obtain ⟨f, w, b⟩ := clip (attrsChunks R shape (a :: as)).1
      exact ⟨f, w, congrArg (fun p => PView.mk p _) b⟩
  | withGroup name =>
    cases shape with
    | json n sep =>
      obtain ⟨f, w, b⟩ := clip (R.groupOpen sep name)
      exact ⟨f, w, congrArg (fun p => PView.mk p _) b⟩
    | text p => exact ⟨Frame.refl, wf_clip hwf, rfl⟩
    | nano => exact ⟨Frame.refl, hwf, rfl⟩

theorem attrsChunks_append (as bs : List α) :
    ∀ sh, attrsChunks R sh (as ++ bs) =
      ((attrsChunks R sh as).1 ++ (attrsChunks R (attrsChunks R sh as).2 bs).1,
       (attrsChunks R (attrsChunks R sh as).2 bs).2) := by
  induction as with
  | nil => intro sh; rfl
  | cons a as ih => intro sh; simp only [List.cons_append, attrsChunks, ih, List.append_assoc]

theorem closers_afterAttr (sh : Shape) (w : Bool) : closers (sh.afterAttr w) = closers sh := by
  cases sh <;> rfl

theorem closers_attrsChunks (as : List α) :
    ∀ sh, closers (attrsChunks R sh as).2 = closers sh := by
  induction as with
  | nil => intro sh; rfl
  | cons a as ih => intro sh; exact (ih _).trans (closers_afterAttr sh _)

theorem renderChain_snoc (chain : List (DOp α)) (op : DOp α) :
    renderChain R k (chain ++ [op]) = pureStep R (renderChain R k chain) op := by
  rw [renderChain, List.foldl_append]
  rfl

/-- `Handle` on a handler whose view is `v` assembles the line of `v` -/
theorem lineOf_view {H : Heap} {h : Handler} {v : PView} (hv : h.view H = v)
    (hd : Bytes) (attrs : List α) :
    lineOf R (h.pre.bytes H) h.shape hd attrs = lineOf R v.pre v.shape hd attrs := by
  subst hv
  rfl

variable {s : St α} {h : Handler} {chain : List (DOp α)}

theorem step_derive {p : Nat} (hp : s.forest[p]? = some (h, chain)) (op : DOp α) :
    step R c g s (.derive p op) =
      { s with heap := (derive R c g s.heap h op).1,
               forest := s.forest ++ [((derive R c g s.heap h op).2, chain ++ [op])] } := by
  simp only [step, hp]

theorem step_log {i : Nat} (hi : s.forest[i]? = some (h, chain)) (hd : Bytes) (attrs : List α) :
    step R c g s (.log i hd attrs) =
      { s with out := s.out ++ [⟨i, hd, attrs, lineOf R (h.pre.bytes s.heap) h.shape hd attrs⟩] } := by
  simp only [step, hi]

theorem step_derive_none {p : Nat} (hp : s.forest[p]? = none) (op : DOp α) :
    step R c g s (.derive p op) = s := by
  simp only [step, hp]

/-- handles are stable: the forest only grows at the end (any clip flag, any policy) -/
theorem step_forest (s : St α) (op : HOp α) : s.forest <+: (step R c g s op).forest := by
  -- the branches of `step`: derive from a handle that is not there, derive, log likewise
  fun_cases step R c g s op
  · exact List.prefix_rfl
  · exact List.prefix_append _ _
  · exact List.prefix_rfl
  · exact List.prefix_rfl

theorem runFrom_forest (ops : List (HOp α)) :
    ∀ s : St α, s.forest <+: (runFrom R c g s ops).forest := by
  induction ops with
  | nil => intro s; exact List.prefix_rfl
  | cons op ops ih => intro s; exact (step_forest s op).trans (ih _)

theorem getElem?_of_prefix {β} {l₁ l₂ : List β} (hp : l₁ <+: l₂) {i : Nat} {y : β}
    (h : l₁[i]? = some y) : l₂[i]? = some y := by
  obtain ⟨hi, rfl⟩ := List.getElem?_eq_some_iff.1 h
  exact List.prefix_iff_getElem?.1 hp i hi

theorem run_append (ops more : List (HOp α)) :
    run R c g k (ops ++ more) = runFrom R c g (run R c g k ops) more :=
  List.foldl_append ..

/-- the state invariant: every handler of the forest is well formed and, read through the heap,
    *is* the pure rendering of its own chain; every line logged so far is the line of that pure
    rendering. -/
def Good (R : Renderer α) (k : Kind) (s : St α) : Prop :=
  (∀ e ∈ s.forest, WfSlice s.heap e.1.pre ∧ e.1.view s.heap = renderChain R k e.2) ∧
  (∀ e ∈ s.out, ∃ (h : Handler) (chain : List (DOp α)), s.forest[e.handle]? = some (h, chain) ∧
      e.line = lineOf R (renderChain R k chain).pre (renderChain R k chain).shape e.hd e.attrs)

theorem Good.get (hg : Good R k s) {i : Nat} (hi : s.forest[i]? = some (h, chain)) :
    WfSlice s.heap h.pre ∧ h.view s.heap = renderChain R k chain :=
  hg.1 _ (List.mem_of_getElem? hi)

theorem good_init : Good R k (St.init k) := by
  refine ⟨fun e he => ?_, fun e he => nomatch he⟩
  cases List.mem_singleton.1 he
  exact ⟨⟨Nat.one_pos, Nat.le_refl _, Nat.le_refl _⟩, rfl⟩

theorem step_good (op : HOp α) (hg : Good R k s) : Good R k (step R true g s op) := by
  fun_cases step R true g s op
  · exact hg
  · next p dop h chain hp r =>
    obtain ⟨fr, w', v'⟩ := derive_spec (R := R) (g := g) dop (hg.get hp).1
    refine ⟨fun e he => ?_, fun e he => ?_⟩
    · rcases List.mem_append.1 he with he | he
      · obtain ⟨k1, k2⟩ := frame_keeps fr (hg.1 e he).1
        exact ⟨k1, k2.trans (hg.1 e he).2⟩
      · cases List.mem_singleton.1 he
        exact ⟨w', by rw [v', (hg.get hp).2, renderChain_snoc]⟩
    · obtain ⟨h', chain', h1, h2⟩ := hg.2 e he
      exact ⟨h', chain', getElem?_of_prefix (List.prefix_append _ _) h1, h2⟩
  · exact hg
  · next i hd attrs h chain hi =>
    refine ⟨hg.1, fun e he => ?_⟩
    rcases List.mem_append.1 he with he | he
    · exact hg.2 e he
    · cases List.mem_singleton.1 he
      exact ⟨_, _, hi, lineOf_view (hg.get hi).2 hd attrs⟩

theorem runFrom_good (ops : List (HOp α)) :
    ∀ s : St α, Good R k s → Good R k (runFrom R true g s ops) := by
  induction ops with
  | nil => intro s h; exact h
  | cons op ops ih => intro s h; exact ih _ (step_good op h)

theorem run_good (ops : List (HOp α)) : Good R k (run R true g k ops) :=
  runFrom_good ops _ good_init

/-- replaying a chain alone on top of the last handler of a forest -/
theorem runFrom_alone (chain : List (DOp α)) :
    ∀ (s : St α) (n : Nat) (h : Handler) (c0 : List (DOp α)),
      s.forest.length = n + 1 → s.forest[n]? = some (h, c0) →
      ∃ h', (runFrom R c g s (aloneOps n chain)).forest[n + chain.length]? = some (h', c0 ++ chain) ∧
        (runFrom R c g s (aloneOps n chain)).out = s.out := by
  induction chain with
  | nil => intro s n h c0 _ hn; exact ⟨h, (List.append_nil c0).symm ▸ hn, rfl⟩
  | cons op rest ih =>
    intro s n h c0 hl hn
    have hs := step_derive (R := R) (c := c) (g := g) hn op
    obtain ⟨h', e1, e2⟩ := ih (step R c g s (.derive n op)) (n + 1) _ (c0 ++ [op])
      (by rw [hs, List.length_append, hl]; rfl)
      (by rw [hs, ← hl]; exact List.getElem?_concat_length)
    rw [Nat.add_right_comm, List.append_assoc] at e1
    exact ⟨h', e1, e2.trans (by rw [hs])⟩

end Glb.Derive
