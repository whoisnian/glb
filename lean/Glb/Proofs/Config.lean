/-
  Helper definitions and lemmas for C09 (priority of configuration sources).
-/
import Glb.Go.Lemmas
import Glb.Model.Config
import Glb.Proofs.ArgParse

namespace Glb.Config
open Glb.ArgParse (dash equals ArgErr effective argParse Result argParse_spec)

/-! ## vocabulary of the specification -/

/-- the environment text of a flag: flags without a key never read the environment -/
def envOf (env : Bytes → Option Bytes) (f : Flag) : Option Bytes :=
  if f.env = [] then none else env f.env

/-- THE PRIORITY RULE for one field: the command-line text if present, else the environment text
    — read by the type's parser, the empty text meaning the zero value — else the JSON value, else
    what the field held before (the parsed tag default).  `none` = the chosen text is unreadable. -/
def expected (W : World) (k : Kind) (cli envv : Option Bytes) (json : Option Val) (dflt : Val) :
    Option Val :=
  match cli with
  | some t => setText W k t
  | none => match envv with
    | some t => setText W k t
    | none => some (json.getD dflt)

/-- the text whose readability decides success: command line shadows environment -/
def effectiveText (cli envv : Option Bytes) : Option Bytes :=
  match cli with
  | some t => some t
  | none => envv

/-- the file named by `-config` on the COMMAND LINE (only), `""` when absent -/
def cliPath (as : List (Bytes × Bytes)) : Bytes := (effective as configName).getD []

/-- what the JSON carrier contributes: `none` = unreadable / invalid, `some []` when there is no
    carrier at all; the file named by `-config`, else `CFG_CONFIG_B64` -/
def carrierOverlay (W : World) (env : Bytes → Option Bytes) (path : Bytes) : Option (List (Nat × Val)) :=
  if path ≠ [] then (W.readFile path).bind W.unmarshal
  else match env Generated.b64ConfigEnv with
    | some s => (W.b64Decode s).bind W.unmarshal
    | none => some []

theorem indexByte_eq_findIdx? (s : Bytes) (c : UInt8) : indexByte s c = s.findIdx? (· == c) := by
  induction s with
  | nil => rfl
  | cons b s ih => simp [indexByte, List.findIdx?_cons, ih]

theorem indexByte_lt (s : Bytes) (c : UInt8) (p : Nat) (h : indexByte s c = some p) : p < s.length := by
  rw [indexByte_eq_findIdx?, List.findIdx?_eq_some_iff_getElem] at h
  exact h.1

theorem indexByte_none (a : Bytes) (c : UInt8) (h : c ∉ a) : indexByte a c = none := by
  rw [indexByte_eq_findIdx?, List.findIdx?_eq_none_iff]
  intro x hx
  exact beq_eq_false_iff_ne.2 fun e => h (e ▸ hx)

theorem indexByte_append (a b : Bytes) (c : UInt8) (h : c ∉ a) :
    indexByte (a ++ c :: b) c = some a.length := by
  rw [indexByte_eq_findIdx?, List.findIdx?_append, ← indexByte_eq_findIdx?, indexByte_none a c h]
  simp [List.findIdx?_cons]

/-- `s` in front of its first `sep` and after it; all of `s` and nothing when there is none -/
def cut (s : Bytes) (sep : UInt8) : Bytes × Bytes :=
  match indexByte s sep with
  | none => (s, [])
  | some p => (s.take p, s.drop (p + 1))

theorem cut_append (a b : Bytes) (sep : UInt8) (h : sep ∉ a) : cut (a ++ sep :: b) sep = (a, b) := by
  simp [cut, indexByte_append a b sep h]

theorem cut_none (a : Bytes) (sep : UInt8) (h : sep ∉ a) : cut a sep = (a, []) := by
  simp [cut, indexByte_none a sep h]

/-- the separator search of `parseStructFieldTag` cuts twice; none of its slices is out of range -/
theorem tagSplit_eq (name : Bytes) (sep : UInt8) :
    tagSplit name sep = .ok ((cut name sep).1, cut (cut name sep).2 sep) := by
  unfold tagSplit cut
  cases h1 : indexByte name sep with
  | none => rfl
  | some pos =>
    have hp := indexByte_lt _ _ _ h1
    simp only [Go.slice?_from name (pos + 1) hp, Go.slice?_to name pos (Nat.le_of_lt hp), bind, Except.bind]
    generalize name.drop (pos + 1) = value
    cases h2 : indexByte value sep with
    | none => rfl
    | some pos2 =>
      have hp2 := indexByte_lt _ _ _ h2
      simp only [Go.slice?_from value (pos2 + 1) hp2, Go.slice?_to value pos2 (Nat.le_of_lt hp2)]
      rfl

theorem parseTag_eq (lower : Bytes → Bytes) (goName tag : Bytes) :
    parseTag lower goName tag = .ok (
      let pipe := tag.head? = some bar
      let r := cut (if pipe then tag.drop 1 else tag) (if pipe then bar else comma)
      (if r.1 = [] then lower goName else r.1, cut r.2 (if pipe then bar else comma))) := by
  unfold parseTag
  cases tag with
  | nil => simp [tagSplit_eq, bind, Except.bind, pure, Except.pure]
  | cons c t =>
    by_cases hc : c = bar <;> simp [idx?, slice?, tagSplit_eq, bind, Except.bind, pure, Except.pure, hc]

def isAlnum (c : UInt8) : Bool := isLower c || isUpper c || isDigit c

def recase (upper : Bool) (c : UInt8) : UInt8 :=
  if isLower c then (if upper then c - 0x20 else c)
  else if isUpper c then (if upper then c else c + 0x20)
  else c

/-- is there a word boundary in front of byte `c`, given the byte before it and the byte after it?
    (1) anything after a separator; (2) an upper-case letter after a lower-case one (`aB → a_B`);
    (3) an upper-case letter followed by a lower-case one (`ABc → A_Bc`, `1Bc → 1_Bc`). -/
def boundary (prev : Option UInt8) (c : UInt8) (next : Option UInt8) : Bool :=
  match prev with
  | none => false
  | some p =>
    !isAlnum p || (isUpper c && (isLower p || (match next with | some n => isLower n | none => false)))

/-- snake case, specified with a three-byte window: separators vanish, every other byte is kept
    (re-cased), and `_` is inserted at word boundaries once something has been written -/
def snake (upper : Bool) : Option UInt8 → Bool → Bytes → Bytes
  | _, _, [] => []
  | prev, seen, c :: rest =>
    if isAlnum c then
      (if seen && boundary prev c rest.head? then [underscoreByte, recase upper c] else [recase upper c])
        ++ snake upper (some c) true rest
    else snake upper (some c) seen rest

def lastOf : Option UInt8 → Last
  | none => .initial
  | some p => if isLower p then .lowerLetter else if isUpper p then .upperLetter
    else if isDigit p then .initial else .notAlphanum

theorem isLower_iff (c : UInt8) : isLower c = true ↔ 97 ≤ c.toNat ∧ c.toNat ≤ 122 := by
  simp [isLower, UInt8.le_iff_toNat_le]

theorem isUpper_iff (c : UInt8) : isUpper c = true ↔ 65 ≤ c.toNat ∧ c.toNat ≤ 90 := by
  simp [isUpper, UInt8.le_iff_toNat_le]

theorem isDigit_iff (c : UInt8) : isDigit c = true ↔ 48 ≤ c.toNat ∧ c.toNat ≤ 57 := by
  simp [isDigit, UInt8.le_iff_toNat_le]

theorem lower_not_upper (c : UInt8) (h : isLower c = true) : isUpper c = false := by
  rw [isLower_iff] at h
  rw [Bool.eq_false_iff, ne_eq, isUpper_iff]
  omega

theorem lower_not_digit (c : UInt8) (h : isLower c = true) : isDigit c = false := by
  rw [isLower_iff] at h
  rw [Bool.eq_false_iff, ne_eq, isDigit_iff]
  omega

theorem upper_not_digit (c : UInt8) (h : isUpper c = true) : isDigit c = false := by
  rw [isUpper_iff] at h
  rw [Bool.eq_false_iff, ne_eq, isDigit_iff]
  omega

theorem lastOf_notAlphanum (p : UInt8) : (lastOf (some p) == Last.notAlphanum) = !isAlnum p := by
  simp only [lastOf, isAlnum]
  cases isLower p <;> cases isUpper p <;> cases isDigit p <;> rfl

theorem lastOf_lower (p : UInt8) : (lastOf (some p) == Last.lowerLetter) = isLower p := by
  simp only [lastOf]
  cases isLower p <;> cases isUpper p <;> cases isDigit p <;> rfl

theorem ite_or {α : Type} (a b : Bool) (x y : α) :
    (if a = true then x else if b = true then x else y) = if (a || b) = true then x else y := by
  cases a <;> cases b <;> rfl

theorem boundary_bool (s l a n : Bool) : ((s && (l || a)) || (s && n)) = (s && (a || (l || n))) := by
  cases s <;> cases l <;> cases a <;> cases n <;> rfl

theorem underscoreGo_eq_snake (upper : Bool) (s : Bytes) : ∀ (prev : Option UInt8) (seen : Bool),
    (prev = none → seen = false) →
    underscoreGo upper (lastOf prev) seen s = snake upper prev seen s := by
  induction s with
  | nil => intro prev seen _; simp [underscoreGo, snake]
  | cons c rest ih =>
    intro prev seen hinv
    -- `boundary` by what the loop knows: its `last` and the byte after `c`
    have hb : (seen && boundary prev c rest.head?) =
        (seen && (lastOf prev == .notAlphanum ||
          isUpper c && (lastOf prev == .lowerLetter ||
            match (generalizing := false) rest with | d :: _ => isLower d | [] => false))) := by
      cases prev with
      | none => simp [hinv rfl]
      | some p => cases rest <;> simp [boundary, lastOf_notAlphanum, lastOf_lower]
    generalize lastOf prev = last at hb ⊢
    simp only [snake, hb, underscoreGo, ← ih (some c) _ nofun, lastOf]
    by_cases hl : isLower c = true
    · simp [hl, isAlnum, recase, lower_not_upper c hl]
    · by_cases hu : isUpper c = true
      · -- the loop tests "after a separator or a lower-case letter" first and the look-ahead
        -- second; `boundary` has them in one disjunction
        simp only [hl, hu, isAlnum, recase, if_true, if_false, Bool.false_or, Bool.true_or, Bool.true_and,
          Bool.false_eq_true, ite_or, boundary_bool]
        -- the two `match`es on `rest` are different auxiliary definitions
        rfl
      · by_cases hd : isDigit c = true <;> simp [hl, hu, hd, isAlnum, recase]

/-- flag `f` is what `parseStructFields` makes of leaf `lf` -/
def LeafFlag (W : World) (lf : Leaf) (f : Flag) : Prop :=
  ∃ name defValue usage v,
    parseTag W.lower lf.goName lf.tag = .ok (name, defValue, usage) ∧
    name.head? ≠ some dash ∧ equals ∉ name ∧
    setText W lf.kind defValue = some v ∧
    f = { name := name, env := underscore (Generated.envKeyPrefix ++ lf.group ++ lf.goName) true,
          kind := lf.kind, usage := usage, val := v, envValue := none }

/-- position-wise relation between two lists (core has no `Forall₂`) -/
inductive AllPairs {α β : Type} (R : α → β → Prop) : List α → List β → Prop where
  | nil : AllPairs R [] []
  | cons {a b as bs} : R a b → AllPairs R as bs → AllPairs R (a :: as) (b :: bs)

theorem AllPairs.length_eq {α β : Type} {R : α → β → Prop} {as : List α} {bs : List β}
    (h : AllPairs R as bs) : as.length = bs.length := by
  induction h with
  | nil => rfl
  | cons _ _ ih => simp [ih]

theorem AllPairs.get {α β : Type} {R : α → β → Prop} {as : List α} {bs : List β}
    (h : AllPairs R as bs) : ∀ (i : Nat) (a : α) (b : β), as[i]? = some a → bs[i]? = some b → R a b := by
  induction h with
  | nil => intro i a b ha; simp at ha
  | cons hr _ ih =>
    intro i a b ha hb
    cases i with
    | zero => simp at ha hb; subst ha hb; exact hr
    | succ j => simp at ha hb; exact ih j a b ha hb

theorem AllPairs.exists_of_mem {α β : Type} {R : α → β → Prop} {as : List α} {bs : List β}
    (h : AllPairs R as bs) {b : β} (hb : b ∈ bs) : ∃ a, R a b := by
  induction h with
  | nil => nomatch hb
  | cons hr _ ih =>
    rcases List.mem_cons.1 hb with rfl | hb
    · exact ⟨_, hr⟩
    · exact ih hb

theorem addLeaf_ok (W : World) (fl fl' : List Flag) (lf : Leaf) (h : addLeaf W fl lf = .ok fl') :
    ∃ f, fl' = fl ++ [f] ∧ LeafFlag W lf f ∧ ∀ g ∈ fl, g.name ≠ f.name := by
  revert h
  fun_cases addLeaf W fl lf
  case case6 name defValue usage hp h1 h2 h3 v hs =>
    rintro ⟨⟩
    refine ⟨_, rfl, ⟨name, defValue, usage, v, hp, h1, h2, hs, rfl⟩, ?_⟩
    intro g hg hn
    exact h3 (List.any_eq_true.2 ⟨g, hg, decide_eq_true hn⟩)
  all_goals nofun

theorem addLeaves_ok (W : World) (ls : List Leaf) (fl fl' : List Flag)
    (h : addLeaves W fl ls = .ok fl') :
    ∃ extra, fl' = fl ++ extra ∧ AllPairs (LeafFlag W) ls extra ∧
      ((fl.map (·.name)).Nodup → (fl'.map (·.name)).Nodup) := by
  revert h
  fun_induction addLeaves W fl ls with
  | case1 fl => rintro ⟨⟩; exact ⟨[], by simp, .nil, id⟩
  | case2 fl lf rest e h1 => nofun
  | case3 fl lf rest fl1 h1 ih =>
    intro h
    obtain ⟨f, rfl, hlf, hne⟩ := addLeaf_ok W fl fl1 lf h1
    obtain ⟨extra, rfl, hall, hnd⟩ := ih h
    refine ⟨f :: extra, by simp, .cons hlf hall, fun hn => hnd ?_⟩
    rw [List.map_append, List.nodup_append]
    refine ⟨hn, by simp, ?_⟩
    intro a ha b hb
    simp at hb; subst hb
    simp at ha
    obtain ⟨g, hg, rfl⟩ := ha
    exact hne g hg

theorem recase_upper_lower (c : UInt8) (h : isLower c = true) : isUpper (c - 0x20) = true := by
  rw [isLower_iff] at h
  have h32 : (0x20 : UInt8).toNat = 32 := rfl
  rw [isUpper_iff, UInt8.toNat_sub_of_le _ _ (by rw [UInt8.le_iff_toNat_le]; omega)]
  omega

theorem recase_upper_charset (c : UInt8) (h : isAlnum c = true) :
    isUpper (recase true c) = true ∨ isDigit (recase true c) = true := by
  unfold recase
  by_cases hl : isLower c = true
  · simp [hl, recase_upper_lower c hl]
  · by_cases hu : isUpper c = true
    · simp [hl, hu]
    · simp_all [isAlnum]

theorem snake_upper_charset (s : Bytes) (prev : Option UInt8) (seen : Bool) :
    ∀ b ∈ snake true prev seen s, isUpper b = true ∨ isDigit b = true ∨ b = underscoreByte := by
  fun_induction snake true prev seen s with
  | case1 => nofun
  | case2 prev seen c rest ha ih =>
    refine List.forall_mem_append.2 ⟨?_, ih⟩
    rcases recase_upper_charset c ha with hr | hr <;> split <;> simp [hr]
  | case3 prev seen c rest ha ih => exact ih

theorem envParse_length (env : Bytes → Option Bytes) (fs : List Flag) : (envParse env fs).length = fs.length := by
  simp [envParse]

theorem applyOverlayFrom_nil (k : Nat) (fs : List Flag) : applyOverlayFrom [] k fs = fs := by
  induction fs generalizing k with
  | nil => rfl
  | cons f fs ih => simp [applyOverlayFrom, jsonValue, ih]

theorem parseConfigJson_eq (W : World) (env : Bytes → Option Bytes) (h c : Flag) (rest : List Flag) :
    parseConfigJson W env (h :: c :: rest) =
      match carrierOverlay W env c.val with
      | none => .error .carrier
      | some ov => .ok (applyOverlayFrom ov 0 (h :: c :: rest)) := by
  unfold parseConfigJson carrierData carrierOverlay
  by_cases hp : c.val = []
  · simp only [hp, ne_eq, not_true_eq_false, if_false]
    cases env Generated.b64ConfigEnv with
    | none => simp [applyOverlayFrom_nil]
    | some s =>
      dsimp only
      cases W.b64Decode s with
      | none => rfl
      | some d => cases W.unmarshal d <;> rfl
  · simp only [ne_eq, hp, not_false_eq_true, if_true]
    cases W.readFile c.val with
    | none => rfl
    | some d => cases W.unmarshal d <;> rfl

/-- expected values of a whole flag list, positions counted from `k` -/
def expectAll (W : World) (as : List (Bytes × Bytes)) (ov : List (Nat × Val)) : Nat → List Flag → List (Option Val)
  | _, [] => []
  | k, f :: fs =>
    expected W f.kind (effective as f.name) f.envValue (jsonValue ov k) f.val :: expectAll W as ov (k + 1) fs

theorem expectAll_getElem? (W : World) (as : List (Bytes × Bytes)) (ov : List (Nat × Val)) (fs : List Flag) :
    ∀ (k i : Nat), (expectAll W as ov k fs)[i]? =
      fs[i]?.map (fun f => expected W f.kind (effective as f.name) f.envValue (jsonValue ov (k + i)) f.val) := by
  induction fs with
  | nil => intro k i; simp [expectAll]
  | cons f fs ih =>
    intro k i
    cases i with
    | zero => simp [expectAll]
    | succ j =>
      simp only [expectAll, List.getElem?_cons_succ, ih]
      congr 1; funext f; congr 2; omega

variable (W : World) (as : List (Bytes × Bytes)) (ov : List (Nat × Val)) (env : Bytes → Option Bytes)

theorem pickText_arg_env (cli envv : Option Bytes) :
    pickText [.arg, .env] cli envv = effectiveText cli envv := by
  cases cli <;> cases envv <;> simp [pickText, effectiveText]

theorem applyOverlayFrom_cons (k : Nat) (f : Flag) (fs : List Flag) :
    applyOverlayFrom ov k (f :: fs) =
      { f with val := (jsonValue ov k).getD f.val } :: applyOverlayFrom ov (k + 1) fs := by
  simp only [applyOverlayFrom]
  cases jsonValue ov k <;> rfl

theorem expected_eq (k : Kind) (cli envv : Option Bytes) (json : Option Val) (dflt : Val) :
    expected W k cli envv json dflt =
      match effectiveText cli envv with
      | some t => setText W k t
      | none => some (json.getD dflt) := by
  cases cli <;> cases envv <;> rfl

theorem flagLoop_cons (f : Flag) (fs : List Flag) :
    flagLoop W [.arg, .env] as (f :: fs) =
      match effectiveText (effective as f.name) f.envValue with
      | none => (flagLoop W [.arg, .env] as fs).map (f :: ·)
      | some t =>
        match setText W f.kind t with
        | none => .error (.badValue f.name)
        | some v => (flagLoop W [.arg, .env] as fs).map ({ f with val := v } :: ·) := by
  simp only [flagLoop, pickText_arg_env]
  cases effectiveText (effective as f.name) f.envValue with
  | none => cases flagLoop W [.arg, .env] as fs <;> rfl
  | some t =>
    dsimp only
    cases setText W f.kind t with
    | none => rfl
    | some v => cases flagLoop W [.arg, .env] as fs <;> rfl

/-- a flag as the final loop meets it: the environment has been read into `envValue`, JSON has
    written `val` -/
theorem sourced_cons (k : Nat) (f : Flag) (fs : List Flag) (hf : f.envValue = none) :
    applyOverlayFrom ov k (envParse env (f :: fs)) =
      { f with val := (jsonValue ov k).getD f.val, envValue := envOf env f } ::
        applyOverlayFrom ov (k + 1) (envParse env fs) := by
  rw [show envParse env (f :: fs) = _ :: envParse env fs from rfl, applyOverlayFrom_cons]
  congr 1
  unfold envOf
  by_cases he : f.env = []
  · simp only [he, if_true, hf]
  · simp only [he, if_false]
    cases env f.env <;> simp only [hf]

/-- What the final loop may return on the flags `fs` (at positions `k`, `k+1`, …; `envOf` and `ov`
    being the environment texts and JSON values they have been given): the error of a flag whose
    effective text is unreadable, or flags that hold what the priority rule says. -/
def LoopOutcome (k : Nat) (fs : List Flag) : Except ParseErr (List Flag) → Prop
  | .error e => ∃ f ∈ fs, e = .badValue f.name ∧
      ∃ t, effectiveText (effective as f.name) (envOf env f) = some t ∧ setText W f.kind t = none
  | .ok out => ∀ i f, fs[i]? = some f → ∃ g, out[i]? = some g ∧ g.name = f.name ∧
      expected W f.kind (effective as f.name) (envOf env f) (jsonValue ov (i + k)) f.val = some g.val

theorem loop_outcome (fs : List Flag) (hnone : ∀ f ∈ fs, f.envValue = none) :
    ∀ k, LoopOutcome W as ov env k fs
      (flagLoop W [.arg, .env] as (applyOverlayFrom ov k (envParse env fs))) := by
  induction fs with
  | nil => intro k i f hf; simp at hf
  | cons f fs ih =>
    intro k
    have ih := ih (fun g hg => hnone g (List.mem_cons_of_mem _ hg)) (k + 1)
    rw [sourced_cons ov env k f fs (hnone f List.mem_cons_self), flagLoop_cons]
    generalize flagLoop W _ as _ = r at ih ⊢
    -- a flag `g` that holds what `expected` says of `f`, in front of the outcome for `fs`
    have cons (g : Flag) (hn : g.name = f.name)
        (hv : expected W f.kind (effective as f.name) (envOf env f) (jsonValue ov k) f.val = some g.val) :
        LoopOutcome W as ov env k (f :: fs) (r.map (g :: ·)) := by
      cases r with
      | error e =>
        obtain ⟨f', hf', h⟩ := ih
        exact ⟨f', List.mem_cons_of_mem _ hf', h⟩
      | ok out =>
        intro i f' hf'
        cases i with
        | zero => cases hf'; exact ⟨g, rfl, hn, (Nat.zero_add k).symm ▸ hv⟩
        | succ j => rw [Nat.add_right_comm]; exact ih j f' hf'
    dsimp only
    cases ht : effectiveText (effective as f.name) (envOf env f) with
    | none => exact cons _ rfl (by rw [expected_eq, ht])
    | some t =>
      dsimp only
      cases hs : setText W f.kind t with
      | none => exact ⟨f, List.mem_cons_self, rfl, t, ht, hs⟩
      | some v => exact cons _ rfl (by rw [expected_eq, ht]; exact hs)

/-- JSON never reaches the two built-ins -/
theorem jsonValue_builtin (i : Nat) (h : i < 2) : jsonValue ov i = none :=
  if_pos h

/-- the outcome of `Parse`, with the extracted step order spelled out, on a flag set that starts
    with the two built-ins -/
theorem parse_eq (extra : List Flag) (argv : List Bytes) :
    parse W (builtins W ++ extra) argv env =
      match argParse (lookupFlag (builtins W ++ extra)) argv with
      | .error p => .error (.panic p)
      | .ok (.err e _) => .error (.arg e)
      | .ok (.ok st) =>
        match carrierOverlay W env (cliPath st.assigns) with
        | none => .error .carrier
        | some ov =>
          (flagLoop W [.arg, .env] st.assigns
            (applyOverlayFrom ov 0 (envParse env (builtins W ++ extra)))).map
            fun out => { flags := out, args := st.args, assigns := st.assigns } := by
  have hne : helpName ≠ configName := by decide
  unfold parse
  simp only [Generated.parseSteps, runSteps, runStep]
  cases argParse (lookupFlag (builtins W ++ extra)) argv with
  | error p => rfl
  | ok r =>
    cases r with
    | err e s => rfl
    | ok st =>
      have last : ∀ X : Except ParseErr (List Flag),
          (match (match X with
              | .error e => (.error e : Except ParseErr PSt)
              | .ok fl => .ok { flags := fl, args := st.args, assigns := st.assigns }) with
            | .error e => (.error e : Except ParseErr PSt)
            | .ok s' => .ok s') =
          X.map fun out => { flags := out, args := st.args, assigns := st.assigns } := by
        intro X; cases X <;> rfl
      simp only [builtins, List.cons_append, List.nil_append, envParse, List.map_cons, if_true]
      cases hc : effective st.assigns configName with
      | none =>
        simp only [cliPath, hc, Option.getD_none]
        rw [parseConfigJson_eq]
        cases carrierOverlay W env [] with
        | none => rfl
        | some ov => exact last _
      | some t =>
        simp only [cliPath, hc, Option.getD_some, setByName, hne, if_false, if_true, setText]
        rw [parseConfigJson_eq]
        cases carrierOverlay W env t with
        | none => rfl
        | some ov =>
          -- `-config=t` has been stored in the flag `config` before the loop stores it again
          simp only [applyOverlayFrom_cons, jsonValue_builtin ov 0 (by decide),
            jsonValue_builtin ov 1 (by decide), Option.getD_none, flagLoop_cons W _ ⟨helpName, _, _, _, _, _⟩,
            flagLoop_cons W _ ⟨configName, _, _, _, _, _⟩, hc, effectiveText, setText]
          exact last _

/-- How `Parse` ends on the flag set `flags` built by `NewFlagSet`, given what `argParse` returned. -/
inductive ParseOutcome (flags : List Flag) :
    Result → Except ParseErr PSt → Prop where
  | arg (e s) : ParseOutcome flags (.err e s) (.error (.arg e))
  | carrier {as rest} : carrierOverlay W env (cliPath as) = none →
      ParseOutcome flags (.ok ⟨as, rest⟩) (.error .carrier)
  | badValue {as rest ov f t} : carrierOverlay W env (cliPath as) = some ov → f ∈ flags →
      effectiveText (effective as f.name) (envOf env f) = some t → setText W f.kind t = none →
      ParseOutcome flags (.ok ⟨as, rest⟩) (.error (.badValue f.name))
  | ok {as rest ov out} : carrierOverlay W env (cliPath as) = some ov →
      (∀ i f, flags[i]? = some f → ∃ g, out[i]? = some g ∧ g.name = f.name ∧
        expected W f.kind (effective as f.name) (envOf env f) (jsonValue ov i) f.val = some g.val) →
      ParseOutcome flags (.ok ⟨as, rest⟩) (.ok ⟨out, rest, as⟩)

theorem parse_outcome (fields : List Field) (flags : List Flag) (argv : List Bytes)
    (hfs : newFlagSet W fields = .ok flags) :
    ∃ r, argParse (lookupFlag flags) argv = .ok r ∧
      ParseOutcome W env flags r (parse W flags argv env) := by
  obtain ⟨extra, rfl, hall, _⟩ := addLeaves_ok W _ _ _ hfs
  have hnone : ∀ f ∈ builtins W ++ extra, f.envValue = none :=
    List.forall_mem_append.2 ⟨by simp [builtins], fun f he => by
      obtain ⟨_, _, _, _, _, _, _, _, _, rfl⟩ := hall.exists_of_mem he
      rfl⟩
  obtain ⟨r, hr, _⟩ := argParse_spec (lookupFlag (builtins W ++ extra)) argv
  refine ⟨r, hr, ?_⟩
  rw [parse_eq, hr]
  cases r with
  | err e s => exact .arg e s
  | ok st =>
    obtain ⟨as, rest⟩ := st
    dsimp only
    cases hc : carrierOverlay W env (cliPath as) with
    | none => exact .carrier hc
    | some ov =>
      have hl := loop_outcome W as ov env _ hnone 0
      dsimp only
      generalize flagLoop W _ as _ = X at hl
      cases X with
      | error e =>
        obtain ⟨f, hf, rfl, t, ht, hs⟩ := hl
        exact .badValue hc hf ht hs
      | ok out =>
        exact .ok hc hl

end Glb.Config
