/-
  Helper lemmas for C10: the index-carrying model of `argParse` computes, iteration by iteration,
  what the fold `parse` over the token classes says (`argParse_spec`), and that fold succeeds or fails
  exactly as the declarative grammar (`WellFormed`, `Ends`, `Offends`) says.
-/
import Glb.Model.ArgParse
import Glb.Spec.ArgvGrammar

namespace Glb.ArgParse
open Glb.ArgvGrammar

/-- forget the state an error leaves behind -/
def Result.toSpec : Result → Parsed
  | .ok s => .ok s.assigns s.args
  | .err e _ => .err e

theorem breakEq_spec (s : Bytes) : equals ∉ (breakEq s).1 ∧
    s = (breakEq s).1 ++ (match (breakEq s).2 with | none => [] | some v => equals :: v) := by
  induction s with
  | nil => simp [breakEq]
  | cons c s ih =>
    by_cases hc : c = equals
    · simp [breakEq, hc]
    · simp only [breakEq, hc, if_false, List.mem_cons, List.cons_append, List.cons.injEq, true_and, not_or]
      exact ⟨⟨Ne.symm hc, ih.1⟩, ih.2⟩

theorem breakEq_append (n : Bytes) (v : Option Bytes) (h : equals ∉ n) :
    breakEq (n ++ (match v with | none => [] | some w => equals :: w)) = (n, v) := by
  induction n with
  | nil => cases v <;> simp [breakEq]
  | cons c s ih =>
    simp only [List.mem_cons, not_or] at h
    simp [breakEq, Ne.symm h.1, ih h.2]

theorem scanEq_spec (fuel : Nat) (pre suf : Bytes) (hf : suf.length < fuel) :
    scanEq (pre ++ suf) fuel pre.length =
      .ok ((breakEq suf).2.map fun _ => pre.length + (breakEq suf).1.length) := by
  induction fuel generalizing pre suf with
  | zero => omega
  | succ f ih =>
    cases suf with
    | nil => simp [scanEq, breakEq, pure, Except.pure]
    | cons c s =>
      have hidx : idx? (pre ++ c :: s) pre.length = .ok c := by simp [idx?]
      by_cases hc : c = equals
      · subst hc
        simp [scanEq, hidx, breakEq, bind, Except.bind, pure, Except.pure]
      · have := ih (pre ++ [c]) s (by simp at hf; omega)
        simp at this
        simp [scanEq, hidx, hc, breakEq, bind, Except.bind, this]
        cases (breakEq s).2 <;> simp; omega

theorem splitEq_spec (b : UInt8) (t : Bytes) :
    splitEq (b :: t) = .ok (b :: (breakEq t).1, (breakEq t).2) := by
  have h := scanEq_spec ((b :: t).length + 1) [b] t (by simp; omega)
  simp at h
  unfold splitEq
  simp [h, bind, Except.bind]
  obtain ⟨_, ht⟩ := breakEq_spec t
  clear h
  generalize breakEq t = p at ht ⊢
  subst ht
  cases p.2 with
  | none => simp [pure, Except.pure]
  | some v =>
    have e3 : p.1.length + (v.length + 1) - (p.1.length + 1) = v.length := by omega
    have e4 : 1 + p.1.length = p.1.length + 1 := by omega
    simp [slice?, pure, Except.pure, e4, e3]

variable (lookup : Bytes → Option Bool)

/-- what one iteration does with the token `tok`, by its class -/
def stepOf (as : List (Bytes × Bytes)) (tok : Bytes)
    (rest : List Bytes) : Tok → Step
  | .nonFlag => .ret (.ok ⟨as, tok :: rest⟩)
  | .terminator => .ret (.ok ⟨as, rest⟩)
  | .bad => .ret (.err (.badSyntax tok) ⟨as, tok :: rest⟩)
  | .flag n v? =>
    match lookup n with
    | none => .ret (.err (.undefined n) ⟨as, rest⟩)
    | some b =>
      match v? with
      | some v => .cont ⟨as ++ [(n, v)], rest⟩
      | none =>
        if b then .cont ⟨as ++ [(n, trueText)], rest⟩
        else match rest with
          | [] => .ret (.err (.needsArg n) ⟨as, []⟩)
          | v :: r => .cont ⟨as ++ [(n, v)], r⟩

def stepSpec (as : List (Bytes × Bytes)) (tok : Bytes)
    (rest : List Bytes) : Step :=
  stepOf lookup as tok rest (classify tok)

theorem body_spec (as : List (Bytes × Bytes)) (tok : Bytes)
    (rest : List Bytes) :
    body lookup ⟨as, tok :: rest⟩ = .ok (stepSpec lookup as tok rest) := by
  simp -zeta [body, idx?, slice?, bind, Except.bind, pure, Except.pure]
  -- `K name`: the join point of the `do` block after the second `name = name[1:]`
  extract_lets K
  have hK name : K name = .ok (stepOf lookup as tok rest (classifyBody name)) := by
    unfold K
    -- `J bad`: the join point after the syntax test
    extract_lets J
    fun_cases classifyBody name <;> simp [J, stepOf, splitEq_spec, *]
    next b t _ =>
      cases lookup (b :: (breakEq t).1) with
      | none => rfl
      | some isBool =>
        cases (breakEq t).2 with
        | some v => rfl
        | none => cases isBool <;> cases rest <;> simp
  unfold stepSpec
  fun_cases classify tok <;> simp +arith [stepOf, hK, *]

theorem prepend_cons (p : Parsed) (a : Bytes × Bytes) (as : List (Bytes × Bytes)) :
    (p.cons a).prepend as = p.prepend (as ++ [a]) := by
  cases p <;> simp [Parsed.cons, Parsed.prepend]

theorem prepend_nil (p : Parsed) : p.prepend [] = p := by
  cases p <;> simp [Parsed.prepend]

/-- One iteration against the fold: a returning iteration returns what the fold makes of the
    arguments, a continuing one consumes the token and leaves a state of which the fold makes the same. -/
theorem stepSpec_parse (as : List (Bytes × Bytes)) (tok : Bytes)
    (rest : List Bytes) :
    match stepSpec lookup as tok rest with
    | .ret r => r.toSpec = (parse lookup (tok :: rest)).prepend as ∧ r.st.args <:+ tok :: rest
    | .cont s => (parse lookup s.args).prepend s.assigns = (parse lookup (tok :: rest)).prepend as ∧
        s.args <:+ rest := by
  unfold stepSpec
  rw [parse]
  cases classify tok with
  | flag n v? =>
    cases hl : lookup n with
    | none => cases v? <;> simp [stepOf, hl, Result.toSpec, Parsed.prepend, Result.st]
    | some b =>
      cases v? with
      | some v => simp [stepOf, hl, prepend_cons]
      | none =>
        cases b with
        | true => simp [stepOf, hl, prepend_cons]
        | false =>
          cases rest with
          | nil => simp [stepOf, hl, Result.toSpec, Parsed.prepend, Result.st]
          | cons v r => simp [stepOf, hl, prepend_cons]
  | _ => simp [stepOf, Result.toSpec, Parsed.prepend, Result.st]

theorem loop_spec : ∀ (fuel : Nat) (s : St), s.args.length < fuel →
    ∃ r, loop lookup fuel s = .ok r ∧ r.toSpec = (parse lookup s.args).prepend s.assigns ∧
      r.st.args <:+ s.args := by
  intro fuel
  induction fuel with
  | zero => intros; omega
  | succ f ih =>
    intro ⟨as, args⟩ hf
    match args with
    | [] => exact ⟨.ok ⟨as, []⟩, rfl, by simp [Result.toSpec, parse, Parsed.prepend], List.nil_suffix⟩
    | tok :: rest =>
      have hs := stepSpec_parse lookup as tok rest
      simp only [loop, List.length_cons, Nat.zero_lt_succ, if_true, body_spec, bind, Except.bind]
      cases hst : stepSpec lookup as tok rest with
      | ret r => rw [hst] at hs; exact ⟨r, rfl, hs⟩
      | cont s =>
        rw [hst] at hs
        obtain ⟨r, h1, h2, h3⟩ := ih s (by have := hs.2.length_le; simp at hf; omega)
        exact ⟨r, h1, h2.trans hs.1, h3.trans (hs.2.trans (List.suffix_cons _ _))⟩

/-- `argParse` never panics, returns what the grammar says of `argv`, and leaves a suffix of `argv`
    in `f.args` -/
theorem argParse_spec (argv : List Bytes) :
    ∃ r, argParse lookup argv = .ok r ∧ r.toSpec = parse lookup argv ∧ r.st.args <:+ argv := by
  obtain ⟨r, h1, h2, h3⟩ := loop_spec lookup (argv.length + 1) ⟨[], argv⟩ (by simp)
  exact ⟨r, h1, by simpa [prepend_nil] using h2, h3⟩

theorem cons_prepend (p : Parsed) (a : Bytes × Bytes) (as : List (Bytes × Bytes)) :
    (p.prepend as).cons a = p.prepend (a :: as) := by
  cases p <;> rfl

theorem parse_of_wellFormed {pre : List Bytes} {as : List (Bytes × Bytes)}
    (h : WellFormed lookup pre as) (tail : List Bytes) :
    parse lookup (pre ++ tail) = (parse lookup tail).prepend as := by
  induction h with
  | nil => exact (prepend_nil _).symm
  | withEq hc hl _ ih | boolFlag hc hl _ ih | withNext hc hl _ ih => simp [parse, hc, hl, ih, cons_prepend]

theorem parse_of_ends {tail rest : List Bytes} (h : Ends tail rest) :
    parse lookup tail = .ok [] rest := by
  cases h with
  | eof => simp [parse]
  | nonFlag hc => rw [parse]; simp [hc]
  | terminator hc => rw [parse]; simp [hc]

theorem parse_of_offends {tok : Bytes} {rest : List Bytes} {e : ArgErr}
    (h : Offends lookup tok rest e) : parse lookup (tok :: rest) = .err e := by
  cases e with
  | badSyntax t => obtain ⟨rfl, hc⟩ := h; rw [parse]; simp [hc]
  | undefined n => obtain ⟨v, hc, hl⟩ := h; rw [parse]; cases v <;> simp [hc, hl]
  | needsArg n => obtain ⟨hc, hl, rfl⟩ := h; rw [parse]; simp [hc, hl]

/-- `Reads lookup argv p`: `argv` is a well-formed prefix followed by a proper end, or by an
    offending token, and `p` is the result that stands for -/
inductive Reads (lookup : Bytes → Option Bool) : List Bytes → Parsed → Prop where
  | ok {pre as tail rest} : WellFormed lookup pre as → Ends tail rest →
      Reads lookup (pre ++ tail) (.ok as rest)
  | err {pre as tok rest e} : WellFormed lookup pre as → Offends lookup tok rest e →
      Reads lookup (pre ++ tok :: rest) (.err e)

/-- a complete flag group `grp` (one or two tokens, denoting `a`) in front of a vector that reads as `p` -/
theorem Reads.group {lookup : Bytes → Option Bool} {grp rest : List Bytes} {a : Bytes × Bytes} {p : Parsed}
    (hwf : ∀ {pre as}, WellFormed lookup pre as → WellFormed lookup (grp ++ pre) (a :: as))
    (h : Reads lookup rest p) : Reads lookup (grp ++ rest) (p.cons a) := by
  cases h with
  | ok hw he => rw [← List.append_assoc]; exact .ok (hwf hw) he
  | err hw ho => rw [← List.append_assoc]; exact .err (hwf hw) ho

theorem parse_of_reads {argv : List Bytes} {p : Parsed} (h : Reads lookup argv p) : parse lookup argv = p := by
  cases h with
  | ok hw he => rw [parse_of_wellFormed lookup hw, parse_of_ends lookup he]; simp [Parsed.prepend]
  | err hw ho => rw [parse_of_wellFormed lookup hw, parse_of_offends lookup ho]; rfl

theorem reads_parse (argv : List Bytes) : Reads lookup argv (parse lookup argv) := by
  fun_induction parse lookup argv with
  | case1 => exact .ok .nil .eof
  | case2 tok rest hc => exact .ok .nil (.nonFlag hc)
  | case3 tok rest hc => exact .ok .nil (.terminator hc)
  | case4 tok rest hc => exact .err (e := .badSyntax tok) .nil ⟨rfl, hc⟩
  | case5 tok rest n v hc hl | case7 tok rest n hc hl => exact .err (e := .undefined n) .nil ⟨_, hc, hl⟩
  | case6 tok rest n v hc b hl ih => exact .group (grp := [tok]) (.withEq hc hl) ih
  | case8 tok rest n hc hl ih => exact .group (grp := [tok]) (.boolFlag hc hl) ih
  | case9 tok n hc hl => exact .err (e := .needsArg n) .nil ⟨hc, hl, rfl⟩
  | case10 tok n hc hl v rest ih => exact .group (grp := [tok, v]) (.withNext hc hl) ih

theorem parse_ok_iff (argv : List Bytes) (as : List (Bytes × Bytes)) (rest : List Bytes) :
    parse lookup argv = .ok as rest ↔
      ∃ pre tail, argv = pre ++ tail ∧ WellFormed lookup pre as ∧ Ends tail rest := by
  constructor
  · intro h
    have v := reads_parse lookup argv
    rw [h] at v
    cases v with
    | ok hw he => exact ⟨_, _, rfl, hw, he⟩
  · rintro ⟨pre, tail, rfl, hw, he⟩
    exact parse_of_reads lookup (.ok hw he)

theorem parse_err_iff (argv : List Bytes) (e : ArgErr) :
    parse lookup argv = .err e ↔
      ∃ pre as tok rest, argv = pre ++ tok :: rest ∧ WellFormed lookup pre as ∧
        Offends lookup tok rest e := by
  constructor
  · intro h
    have v := reads_parse lookup argv
    rw [h] at v
    cases v with
    | err hw ho => exact ⟨_, _, _, _, rfl, hw, ho⟩
  · rintro ⟨pre, as, tok, rest, rfl, hw, ho⟩
    exact parse_of_reads lookup (.err hw ho)

theorem classifyBody_ne_nonFlag (b : Bytes) : classifyBody b ≠ .nonFlag := by
  fun_cases classifyBody b <;> nofun

theorem classifyBody_ne_terminator (b : Bytes) : classifyBody b ≠ .terminator := by
  fun_cases classifyBody b <;> nofun

theorem classifyBody_bad_iff (b : Bytes) :
    classifyBody b = .bad ↔ b = [] ∨ (∃ t, b = dash :: t) ∨ (∃ t, b = equals :: t) := by
  fun_cases classifyBody b <;> simp_all

theorem classifyBody_flag_iff (body n : Bytes) (v : Option Bytes) :
    classifyBody body = .flag n v ↔
      (∃ c t, n = c :: t ∧ c ≠ dash ∧ c ≠ equals ∧ equals ∉ t) ∧
      body = n ++ (match v with | none => [] | some w => equals :: w) := by
  constructor
  · fun_cases classifyBody body
    · nofun
    · nofun
    · rename_i b t hb
      intro h
      cases h
      obtain ⟨h1, h2⟩ := breakEq_spec t
      exact ⟨⟨b, _, rfl, fun e => hb (.inl e), fun e => hb (.inr e), h1⟩, congrArg (b :: ·) h2⟩
  · rintro ⟨⟨c, t, rfl, h1, h2, h3⟩, rfl⟩
    simp [classifyBody, h1, h2, breakEq_append t v h3]

theorem classify_flag_iff (tok n : Bytes) (v : Option Bytes) :
    classify tok = .flag n v ↔
      ∃ body, (tok = dash :: body ∨ tok = dash :: dash :: body) ∧ classifyBody body = .flag n v := by
  -- `classify` strips one or two dashes and hands the rest to `classifyBody`; `-` and `--` are no flags, as
  -- their bodies `[]` and `[dash]` are `.bad`
  fun_cases classify tok <;> simp_all [classifyBody]

end Glb.ArgParse
