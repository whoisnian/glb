/-
  Proofs about the lock-level model of IPv4Filter (Glb.Model.FilterConc).  Under the lock
  invariant (mutual exclusion, `LockInv`) every fine step is a stutter or exactly one step of the
  coarse transition system (`sim_stutter`, `sim_move`; put together in
  `C12b.critical_sections_atomic`): a critical section takes effect as a whole when its lock is
  taken (`finishW_aMode`, `finishW_rMode`), and no statement inside it changes what it will have
  done at unlock (`finishW_wstep`, `finishR_rstep`).  `CInv` ties the coarse system to
  Glb.Props.C12: its state is `crun` of the ghost history and every logged lookup result is
  `C12.containsConc` at two nested prefixes of it.

  Order: the predicates and invariants, checked schedules, the case description of `step`
  (`FStep`); then the lemmas, over one set of implicit variables.
-/
import Glb.Model.FilterConc
import Glb.Props.C12

namespace Glb.FilterConc
open Glb.Filter Glb.C11

theorem drop_of_getElem?_some {α : Type} {l : List α} {i : Nat} {e : α} (h : l[i]? = some e) :
    l.drop i = e :: l.drop (i + 1) := by
  obtain ⟨hi, rfl⟩ := List.getElem?_eq_some_iff.1 h
  exact List.drop_eq_getElem_cons hi

theorem drop_of_getElem?_none {α : Type} {l : List α} {i : Nat} (h : l[i]? = none) : l.drop i = [] :=
  List.drop_eq_nil_of_le (List.getElem?_eq_none_iff.1 h)

theorem take_of_getElem?_none {α : Type} {l : List α} {i : Nat} (h : l[i]? = none) : l.take i = l :=
  List.take_of_length_le (List.getElem?_eq_none_iff.1 h)

theorem take_set_append_drop_map {α : Type} (g : α → α) (l : List α) (i : Nat) (e : α)
    (h : l[i]? = some e) :
    (l.set i (g e)).take (i + 1) ++ ((l.set i (g e)).drop (i + 1)).map g =
      l.take i ++ (l.drop i).map g := by
  induction l generalizing i with
  | nil => cases h
  | cons a l ih =>
    cases i with
    | zero => cases h; rfl
    | succ i => exact congrArg (a :: ·) (ih i h)

theorem range'_sub_of_lt {i n : Nat} (h : i < n) :
    List.range' i (n - i) = i :: List.range' (i + 1) (n - (i + 1)) := by
  obtain ⟨m, hm⟩ := Nat.exists_eq_add_one_of_ne_zero (Nat.sub_ne_zero_of_lt h)
  rw [Nat.sub_add_eq, hm]; rfl

theorem map_filter_snoc {α β : Type} (p : α → Bool) (f : α → β) (l : List α) (x : α) :
    ((l ++ [x]).filter p).map f = (l.filter p).map f ++ if p x then [f x] else [] := by
  rw [List.filter_append, List.map_append]
  cases h : p x <;> simp only [List.filter_cons, List.filter_nil, h] <;> rfl

theorem forall_update {α : Type} {P : Tid → α → Prop} {f : Tid → α} {t : Tid} {x : α}
    (hx : P t x) (ho : ∀ u, u ≠ t → P u (f u)) (u : Tid) : P u (if u = t then x else f u) := by
  split
  · rename_i h; rw [h]; exact hx
  · rename_i h; exact ho u h

theorem foldl_copySlot_eq_migrate (l : List (Addr × Nat)) : l.foldl copySlot [] = migrate l := rfl

/-- the fields guarded by the RWMutex -/
def GuardedEq (s s' : St) : Prop := s.mapsMode = s'.mapsMode ∧ s.list = s'.list ∧ s.maps = s'.maps

theorem GuardedEq.rfl' (s : St) : GuardedEq s s := ⟨rfl, rfl, rfl⟩

/-- inside a writer critical section (between `Lock` and `Unlock`) -/
def Pc.inW : Pc → Bool
  | .w _ _ _ => true
  | _ => false

/-- inside the read section (between `RLock` and `RUnlock`) -/
def Pc.inR : Pc → Bool
  | .r .rlock _ => false
  | .r _ _ => true
  | _ => false

structure LockInv (c : Cfg) : Prop where
  writer : ∀ t, (c.th t).pc.inW = true ↔ c.writer = some t
  readers : ∀ t, (c.th t).pc.inR = true ↔ t ∈ c.readers
  excl : c.writer ≠ none → c.readers = []
  nodup : c.readers.Nodup

def Call.valid : Call → Prop
  | .add _ n => n ≤ 32
  | .remove _ n => n ≤ 32
  | .contains _ => True

def projOps (h : Hist) (t : Tid) : List COp := (h.filter (fun e => e.1 = t)).map (·.2)

structure CInv (ls : Nat) (progs : Tid → List Call) (a : CCfg) : Prop where
  state : a.st = crun ls a.hist.ops
  len : ∀ op ∈ a.hist.ops, op.len ≤ 32
  restValid : ∀ t, ∀ c ∈ (a.th t).rest, c.valid
  proj : ∀ t, projOps a.hist t ++ writeOps (a.th t).rest = writeOps (progs t)
  pendHead : ∀ t ip, (a.th t).loaded = some ip → ∃ rest, (a.th t).rest = .contains ip :: rest
  pend : ∀ t ip, (a.th t).loaded = some ip →
    a.pre t <+: a.hist ∧ (crun ls (a.pre t).ops).matchAll = false
  log : ∀ r ∈ a.log, r.pre <+: r.whole ∧ r.whole <+: a.hist ∧
    r.result = C12.containsConc (crun ls r.pre.ops) (crun ls r.whole.ops) r.ip
  results : ∀ t, (a.log.filter (fun r => r.tid = t)).map (·.result) = (a.th t).results

theorem runSched_closed {ls : Nat} {rl : Bool} {R : Cfg → Prop}
    (hR : ∀ c c' t, R c → step ls rl c t = some c' → R c') (sched : List Tid) :
    ∀ c c', R c → runSched ls rl c sched = some c' → R c' := by
  induction sched with
  | nil => intro c c' hc h; cases h; exact hc
  | cons t ts ih =>
    intro c c' hc h
    simp only [runSched] at h
    split at h
    · rename_i c1 hs; exact ih c1 c' (hR c c1 t hc hs) h
    · cases h

theorem exists_of_check {ls : Nat} {rl : Bool} {R : Cfg → Prop}
    (hR : ∀ c c' t, R c → step ls rl c t = some c' → R c') {c0 : Cfg} (h0 : R c0) (sched : List Tid)
    (P : Cfg → Bool) (h : (runSched ls rl c0 sched).map P = some true) : ∃ c, R c ∧ P c = true := by
  obtain ⟨c, hc, hP⟩ := Option.map_eq_some_iff.1 h
  exact ⟨c, runSched_closed hR sched c0 c h0 hc, hP⟩

/-- a checked schedule gives a reachable configuration (for concrete witnesses) -/
theorem exists_reachable_of_check (ls : Nat) (progs : Tid → List Call) (sched : List Tid)
    (P : Cfg → Bool) (h : (runSched ls true (initCfg progs) sched).map P = some true) :
    ∃ c, Reachable ls progs c ∧ P c = true :=
  exists_of_check (fun _ _ t => .step t) .init sched P h

theorem exists_reachableNoRLock_of_check (ls : Nat) (progs : Tid → List Call) (sched : List Tid)
    (P : Cfg → Bool) (h : (runSched ls false (initCfg progs) sched).map P = some true) :
    ∃ c, ReachableNoRLock ls progs c ∧ P c = true :=
  exists_of_check (fun _ _ t => .step t) .init sched P h

theorem runSched_append (ls : Nat) (rl : Bool) (s1 s2 : List Tid) (c : Cfg) :
    runSched ls rl c (s1 ++ s2) = (runSched ls rl c s1).bind fun c1 => runSched ls rl c1 s2 := by
  induction s1 generalizing c with
  | nil => rfl
  | cons t ts ih =>
    simp only [List.cons_append, runSched]
    cases step ls rl c t with
    | none => rfl
    | some c' => exact ih c'

theorem setTh_self (th : Tid → Thread) (t : Tid) (x : Thread) : setTh th t x t = x := if_pos rfl

theorem setTh_ne (th : Tid → Thread) (t u : Tid) (x : Thread) (h : u ≠ t) : setTh th t x u = th u :=
  if_neg h

theorem finishW_aMode :
    finishW ls s (ip &&& maskOf ones) ones .aMode = addCore ls s ip ones := rfl

theorem finishW_rMode :
    finishW ls s (ip &&& maskOf ones) ones .rMode = removeCore s ip ones := rfl

/-- case description of `step ls true` for a thread in local state `x`.  `store` and `lock` name the
    coarse operation `op` of the call: it is the atomic store, resp. what the critical section
    entered at `k` will have done by `Unlock`. -/
inductive FStep (ls : Nat) (c : Cfg) (t : Tid) : Thread → Cfg → Prop
  | store (b : Bool) (hop : call.op? = some op) (hb : ∀ s, cstep ls s op = { s with matchAll := b }) :
      FStep ls c t ⟨call :: rest, .idle, res⟩
        ⟨{ c.st with matchAll := b }, c.writer, c.readers, setTh c.th t ⟨rest, .idle, res⟩⟩
  | lock (hop : call.op? = some op) (hk : ∀ s, cstep ls s op = finishW ls s key ones k)
      (hfree : c.writer = none ∧ c.readers = []) :
      FStep ls c t ⟨call :: rest, .idle, res⟩
        ⟨c.st, some t, c.readers, setTh c.th t ⟨call :: rest, .w k key ones, res⟩⟩
  | wstep : FStep ls c t ⟨rest, .w k key ones, res⟩
      ⟨(wstep ls c.st key ones k).1, c.writer, c.readers,
        setTh c.th t ⟨rest, .w (wstep ls c.st key ones k).2 key ones, res⟩⟩
  | unlock : FStep ls c t ⟨rest, .w .unlock key ones, res⟩
      ⟨c.st, none, c.readers, setTh c.th t ⟨rest.tail, .idle, res⟩⟩
  | loadT (hm : c.st.matchAll = true) :
      FStep ls c t ⟨.contains ip :: rest, .idle, res⟩
        ⟨c.st, c.writer, c.readers, setTh c.th t ⟨rest, .idle, res ++ [true]⟩⟩
  | loadF (hm : c.st.matchAll = false) :
      FStep ls c t ⟨.contains ip :: rest, .idle, res⟩
        ⟨c.st, c.writer, c.readers, setTh c.th t ⟨.contains ip :: rest, .r .rlock ip, res⟩⟩
  | rlock (hw : c.writer = none) :
      FStep ls c t ⟨rest, .r .rlock ip, res⟩
        ⟨c.st, c.writer, t :: c.readers, setTh c.th t ⟨rest, .r .mode ip, res⟩⟩
  | rstep (hk : (Pc.r k ip).inR = true) :
      FStep ls c t ⟨rest, .r k ip, res⟩
        ⟨c.st, c.writer, c.readers, setTh c.th t ⟨rest, .r (rstep c.st ip k) ip, res⟩⟩
  | runlock : FStep ls c t ⟨rest, .r (.runlock b) ip, res⟩
      ⟨c.st, c.writer, c.readers.erase t, setTh c.th t ⟨rest.tail, .idle, res ++ [b]⟩⟩

theorem step_cases {ls : Nat} {c c' : Cfg} {t : Tid} (h : step ls true c t = some c') :
    ∃ x, c.th t = x ∧ FStep ls c t x c' := by
  cases hx : c.th t with | mk rest pc res
  simp only [step, hx, if_true] at h
  refine ⟨_, rfl, ?_⟩
  split at h
  · cases rest with
    | nil => cases h
    | cons call rest =>
      cases call with
      | add ip ones | remove ip ones =>
        dsimp only at h
        split at h
        · rename_i h0
          cases h; subst h0
          exact .store _ rfl fun _ => rfl
        · rename_i h0
          split at h
          · rename_i hf
            cases h
            -- `finishW` at `aMode`/`rMode` unfolds to `addCore`/`removeCore` (`finishW_aMode`, `finishW_rMode`)
            exact .lock rfl (fun _ => if_neg h0) hf
          · cases h
      | contains ip =>
        dsimp only at h
        split at h
        · rename_i hm
          cases h
          exact .loadT hm
        · rename_i hm
          cases h
          exact .loadF (Bool.eq_false_iff.2 hm)
  · cases h
    exact .unlock
  · cases h
    exact .wstep
  · split at h
    · rename_i hw
      cases h
      exact .rlock hw
    · cases h
  · cases h
    exact .runlock
  · rename_i k ip hne _
    cases h
    refine .rstep ?_
    cases k with
    | rlock => exact absurd rfl hne
    | _ => rfl

theorem step_th_other {ls : Nat} {c c' : Cfg} {t : Tid} (h : step ls true c t = some c') {u : Tid}
    (hu : u ≠ t) : c'.th u = c.th u := by
  obtain ⟨_, _, hs⟩ := step_cases h
  cases hs <;> exact setTh_ne _ _ _ _ hu

theorem idle_of_empty_prog (ls : Nat) (progs : Tid → List Call) (c : Cfg)
    (hr : Reachable ls progs c) (t : Tid) (hp : progs t = []) :
    (c.th t).pc = .idle ∧ (c.th t).rest = [] := by
  induction hr with
  | init => exact ⟨rfl, hp⟩
  | step u _ hs ih =>
    by_cases hu : t = u
    · subst hu
      simp only [step, ih.1, ih.2] at hs; cases hs
    · rw [step_th_other hs hu]; exact ih

variable {ls : Nat} {progs : Tid → List Call} {c c' : Cfg} {a : CCfg} {t : Tid} {call : Call} {op : COp}
  {ip : Addr} {rest : List Call} {res : List Bool} {s : St} {key : Addr} {ones : Nat}
  {x : Thread} {u : Tid}

/-- every statement inside a writer critical section leaves "the state at unlock" unchanged -/
theorem finishW_wstep {k : WPc} :
    finishW ls (wstep ls s key ones k).1 key ones (wstep ls s key ones k).2 = finishW ls s key ones k := by
  cases k with
  | aMode | aIdx | rMode => exact apply_ite (finishW ls s key ones) ..
  | aStore | aSetMode | aAlloc | aIns | rDel | unlock => rfl
  | aCopy i =>
    cases h : s.list[i]? with
    | none => simp only [wstep, h, finishW, drop_of_getElem?_none h]; rfl
    | some e => simp only [wstep, h, finishW, drop_of_getElem?_some h]; rfl
  | rScan i =>
    cases h : s.list[i]? with
    | none =>
      simp only [wstep, h, finishW, drop_of_getElem?_none h, take_of_getElem?_none h, List.map_nil,
        List.append_nil]
    | some e =>
      simp only [wstep, h]
      exact congrArg (fun l => { s with list := l }) (take_set_append_drop_map _ s.list i e h)

/-- a critical section never touches `matchAll`, and an atomic store to it commutes with it -/
theorem finishW_matchAll {k : WPc} {b : Bool} :
    finishW ls { s with matchAll := b } key ones k = { finishW ls s key ones k with matchAll := b } := by
  cases k with
  | aMode | aIdx | rMode => simp only [finishW, apply_ite fun z : St => { z with matchAll := b }]
  | _ => rfl

theorem finishW_matchAll_eq {k : WPc} :
    (finishW ls s key ones k).matchAll = s.matchAll := by
  have := congrArg St.matchAll (@finishW_matchAll ls s key ones k s.matchAll)
  exact this

theorem finishR_guarded {s' : St} (h : GuardedEq s s') (ip : Addr) (k : RPc) :
    finishR s ip k = finishR s' ip k := by
  cases k <;> simp only [finishR, scan, h.1, h.2.1, h.2.2]

/-- leaving a scan loop at the first hit -/
theorem finishR_ite {b : Bool} {k : RPc} :
    finishR s ip (if b = true then .runlock true else k) = (b || finishR s ip k) := by
  cases b <;> rfl

/-- every statement of the read section leaves "the result at return" unchanged -/
theorem finishR_rstep {k : RPc} :
    finishR s ip (rstep s ip k) = finishR s ip k := by
  cases k with
  | rlock | runlock b => rfl
  | mode =>
    show finishR s ip (if !s.mapsMode then .list 0 else .map 0) = if !s.mapsMode then _ else _
    split
    · rfl
    · exact congrArg (List.any · _) List.range_eq_range'.symm
  | list i =>
    cases h : s.list[i]? with
    | none =>
      simp only [rstep, h]
      exact congrArg (List.any · _) (drop_of_getElem?_none h).symm
    | some e =>
      simp only [rstep, h, finishR_ite]
      exact congrArg (List.any · _) (drop_of_getElem?_some h).symm
  | map i =>
    show _ = (List.range' i (32 - i)).any _
    by_cases hi : i < 32
    · simp only [rstep, if_pos hi, finishR_ite]
      rw [range'_sub_of_lt hi]; rfl
    · simp only [rstep, if_neg hi]
      rw [Nat.sub_eq_zero_of_le (Nat.le_of_not_lt hi)]; rfl

/-- the read section is left by `RUnlock` only -/
theorem inR_rstep {k : RPc} : (Pc.r (rstep s ip k) ip).inR = true := by
  cases k with
  | rlock | runlock b => rfl
  | mode => simp only [rstep]; split <;> rfl
  | list i => simp only [rstep]; split; split; all_goals rfl
  | map i => simp only [rstep]; split; split; all_goals rfl

theorem lockInv_init : LockInv (initCfg progs) :=
  ⟨fun _ => ⟨nofun, nofun⟩, fun _ => ⟨nofun, nofun⟩, fun _ => rfl, List.nodup_nil⟩

theorem LockInv.holder (hinv : LockInv c) (hx : c.th t = x)
    (h : x.pc.inW = true) : c.writer = some t :=
  (hinv.writer t).1 (hx ▸ h)

theorem LockInv.no_reader (hinv : LockInv c) (hw : c.writer = some t) (u : Tid) :
    (c.th u).pc.inR = false := by
  cases h : (c.th u).pc.inR with
  | false => rfl
  | true =>
    have := (hinv.readers u).1 h
    rw [hinv.excl (hw ▸ nofun)] at this
    cases this

/-- the invariant after a step of `t`, from what the step does to the lock and to `t`'s flags -/
theorem lockInv_set (hinv : LockInv c) {w : Option Tid} {r : List Tid}
    (hW : x.pc.inW = true ↔ w = some t) (hR : x.pc.inR = true ↔ t ∈ r)
    (hw : ∀ u, u ≠ t → (w = some u ↔ c.writer = some u)) (hr : ∀ u, u ≠ t → (u ∈ r ↔ u ∈ c.readers))
    (he : w ≠ none → r = []) (hn : r.Nodup) : LockInv ⟨s, w, r, setTh c.th t x⟩ :=
  ⟨forall_update (P := fun u (y : Thread) => y.pc.inW = true ↔ w = some u) hW
      fun u hu => (hinv.writer u).trans (hw u hu).symm,
    forall_update (P := fun u (y : Thread) => y.pc.inR = true ↔ u ∈ r) hR
      fun u hu => (hinv.readers u).trans (hr u hu).symm, he, hn⟩

/-- a step that leaves the lock and the section flags of `t` alone -/
theorem lockInv_quiet (hinv : LockInv c) {x' : Thread} (hx : c.th t = x)
    (hW : x'.pc.inW = x.pc.inW) (hR : x'.pc.inR = x.pc.inR) :
    LockInv ⟨s, c.writer, c.readers, setTh c.th t x'⟩ := by
  subst hx
  exact lockInv_set hinv (hW ▸ hinv.writer t) (hR ▸ hinv.readers t) (fun _ _ => .rfl)
    (fun _ _ => .rfl) hinv.excl hinv.nodup

theorem lockInv_step (hinv : LockInv c)
    (h : step ls true c t = some c') : LockInv c' := by
  obtain ⟨x, hx, hs⟩ := step_cases h
  cases hs with
  | store | loadT | wstep | loadF => exact lockInv_quiet hinv hx rfl rfl
  | rstep hk => exact lockInv_quiet hinv hx rfl (inR_rstep.trans hk.symm)
  | lock _ _ hfree =>
    exact lockInv_set hinv ⟨fun _ => rfl, fun _ => rfl⟩
      ⟨nofun, hfree.2 ▸ nofun⟩
      (fun u hu => ⟨fun h => absurd (Option.some.inj h).symm hu, hfree.1 ▸ nofun⟩)
      (fun _ _ => .rfl) (fun _ => hfree.2) hinv.nodup
  | unlock =>
    have hw := hinv.holder hx rfl
    exact lockInv_set hinv ⟨nofun, nofun⟩
      ⟨nofun, hinv.excl (hw ▸ nofun) ▸ nofun⟩
      (fun u hu => ⟨nofun, fun h => absurd (Option.some.inj (hw.symm.trans h)).symm hu⟩)
      (fun _ _ => .rfl) (fun h => absurd rfl h) hinv.nodup
  | rlock hwn =>
    have hnt : t ∉ c.readers := fun h => by
      have := (hinv.readers t).2 h
      rw [hx] at this; cases this
    exact lockInv_set hinv ⟨nofun, hwn ▸ nofun⟩
      ⟨fun _ => List.mem_cons_self, fun _ => rfl⟩ (fun _ _ => .rfl)
      (fun u hu => ⟨fun h => (List.mem_cons.1 h).resolve_left hu, List.mem_cons_of_mem _⟩)
      (fun h => absurd hwn h) (List.nodup_cons.2 ⟨hnt, hinv.nodup⟩)
  | runlock =>
    have hmem : t ∈ c.readers := (hinv.readers t).1 (hx ▸ rfl)
    have hwn : c.writer = none := Classical.byContradiction fun h => by
      rw [hinv.excl h] at hmem; cases hmem
    exact lockInv_set hinv ⟨nofun, hwn ▸ nofun⟩
      ⟨nofun, fun h => absurd rfl (hinv.nodup.mem_erase_iff.1 h).1⟩ (fun _ _ => .rfl)
      (fun u hu => hinv.nodup.mem_erase_iff.trans ⟨And.right, And.intro hu⟩)
      (fun h => absurd hwn h) (hinv.nodup.erase t)

theorem lockInv_reachable (h : Reachable ls progs c) : LockInv c := by
  induction h with
  | init => exact lockInv_init
  | step t _ hs ih => exact lockInv_step ih hs

/-- only the lock holder's own statements change the guarded fields, and then nobody reads -/
theorem guardedEq_wstep_other (hinv : LockInv c)
    (h : step ls true c t = some c') :
    GuardedEq c.st c'.st ∨ (c.writer = some t ∧ ∀ u, (c.th u).pc.inR = false) := by
  obtain ⟨x, hx, hs⟩ := step_cases h
  cases hs with
  | wstep => exact Or.inr ⟨hinv.holder hx rfl, hinv.no_reader (hinv.holder hx rfl)⟩
  | _ => exact Or.inl ⟨rfl, rfl, rfl⟩

theorem absSt_none (h : c.writer = none) : absSt ls c = c.st := by
  simp only [absSt, h]

/-- the abstract state while `t` holds the lock depends on `t`'s local state only -/
theorem absSt_of {w : Option Tid} {r : List Tid} {th : Tid → Thread} (hw : w = some t) (hx : th t = x) :
    absSt ls ⟨s, w, r, th⟩ = absSt ls ⟨s, some t, r, fun _ => x⟩ := by
  simp only [absSt, hw, hx]

theorem absSt_matchAll : (absSt ls c).matchAll = c.st.matchAll := by
  unfold absSt
  split
  · rfl
  · split
    · exact finishW_matchAll_eq
    · rfl

/-- an atomic store to `matchAll` by a thread outside the lock commutes with the abstraction -/
theorem absSt_store (ls : Nat) (b : Bool)
    (hpc : ∀ w, c.writer = some w → (c'.th w).pc = (c.th w).pc)
    (hst : c'.st = { c.st with matchAll := b }) (hw : c'.writer = c.writer) :
    absSt ls c' = { absSt ls c with matchAll := b } := by
  unfold absSt
  rw [hw, hst]
  cases hc : c.writer with
  | none => rfl
  | some w =>
    simp only [hpc w hc]
    split
    · exact finishW_matchAll
    · rfl

theorem absSt_congr (ls : Nat)
    (hpc : ∀ w, c.writer = some w → (c'.th w).pc = (c.th w).pc) (hst : c'.st = c.st)
    (hw : c'.writer = c.writer) : absSt ls c' = absSt ls c := by
  rw [absSt_store ls c.st.matchAll hpc hst hw, ← absSt_matchAll]

/-- the abstraction of a thread looks at no other thread's local state -/
theorem absTh_of (hx : c.th u = x) :
    absTh c u = absTh ⟨c.st, c.writer, c.readers, fun _ => x⟩ u := by
  subst hx; rfl

theorem absTh_congr (hth : c'.th u = c.th u)
    (hg : GuardedEq c.st c'.st ∨ (c.th u).pc.inR = false) : absTh c' u = absTh c u := by
  unfold absTh
  simp only [hth]
  cases hpc : (c.th u).pc with
  | idle => rfl
  | w k key ones => rfl
  | r k ip =>
    cases k with
    | rlock => rfl
    | _ =>
      rcases hg with hg | hg
      · simp only [finishR_guarded hg]
      · rw [hpc] at hg; cases hg

theorem absTh_inR {k : RPc}
    (hx : c.th u = ⟨rest, .r k ip, res⟩) (hk : (Pc.r k ip).inR = true) :
    absTh c u = ⟨rest.tail, none, res ++ [finishR c.st ip k]⟩ := by
  cases k with
  | rlock => cases hk
  | _ => simp only [absTh, hx]

theorem absTh_other (hinv : LockInv c)
    (h : step ls true c t = some c') (u : Tid) (hu : u ≠ t) : absTh c' u = absTh c u :=
  absTh_congr (step_th_other h hu) ((guardedEq_wstep_other hinv h).imp_right fun hw => hw.2 u)

theorem writer_pc_other (hinv : LockInv c)
    (h : step ls true c t = some c') {x : Thread} (hx : c.th t = x) (hp : x.pc.inW = false) (w : Tid)
    (hw : c.writer = some w) : (c'.th w).pc = (c.th w).pc := by
  rw [step_th_other h]
  intro hwt
  have := (hinv.writer w).2 hw
  rw [hwt, hx, hp] at this
  cases this

theorem setCTh_self (th : Tid → CThread) (t : Tid) (x : CThread) : setCTh th t x t = x := if_pos rfl

/-- a statement about every coarse thread after `t`'s has been replaced: `t` and the others -/
theorem forall_setCTh {P : Tid → CThread → Prop} {th : Tid → CThread} {x : CThread} (hx : P t x)
    (ho : ∀ u, u ≠ t → P u (th u)) (u : Tid) : P u (setCTh th t x u) :=
  forall_update hx ho u

theorem cstepT_write (hx : a.th t = ⟨call :: rest, none, res⟩) (hop : call.op? = some op) :
    cstepT ls a t = some { a with st := cstep ls a.st op, hist := a.hist ++ [(t, op)],
                                  th := setCTh a.th t ⟨rest, none, res⟩ } := by
  cases call with
  | contains ip => cases hop
  | _ => cases hop; simp only [cstepT, hx]

theorem cstepT_loadT (hx : a.th t = ⟨.contains ip :: rest, none, res⟩) (hm : a.st.matchAll = true) :
    cstepT ls a t = some { a with th := setCTh a.th t ⟨rest, none, res ++ [true]⟩,
                                  log := a.log ++ [⟨t, ip, a.hist, a.hist, true⟩] } := by
  simp only [cstepT, hx, hm, if_true]

theorem cstepT_loadF (hx : a.th t = ⟨.contains ip :: rest, none, res⟩) (hm : a.st.matchAll = false) :
    cstepT ls a t = some { a with th := setCTh a.th t ⟨.contains ip :: rest, some ip, res⟩,
                                  pre := setPre a.pre t a.hist } := by
  simp only [cstepT, hx, hm]; rfl

theorem cstepT_scan (hx : a.th t = ⟨rest, some ip, res⟩) :
    cstepT ls a t = some { a with th := setCTh a.th t ⟨rest.tail, none, res ++ [scan a.st ip]⟩,
                                  log := a.log ++ [⟨t, ip, a.pre t, a.hist, scan a.st ip⟩] } := by
  simp only [cstepT, hx]

theorem sim_stutter (hs : Sim ls c a)
    (hoth : ∀ u, u ≠ t → absTh c' u = absTh c u) (hc' : c'.th = setTh c.th t x)
    (hst : absSt ls c' = absSt ls c)
    (ht : absTh ⟨c'.st, c'.writer, c'.readers, fun _ => x⟩ t = absTh c t) : Sim ls c' a := by
  refine ⟨hs.1.trans hst.symm, fun u => (hs.2 u).trans ?_⟩
  by_cases hu : u = t
  · rw [hu, absTh_of (congrFun hc' t), setTh_self, ht]
  · rw [hoth u hu]

theorem sim_move (hs : Sim ls c a)
    (hoth : ∀ u, u ≠ t → absTh c' u = absTh c u) (hc' : c'.th = setTh c.th t x)
    (a' : CCfg) {y : CThread} (hst : a'.st = absSt ls c') (hth : a'.th = setCTh a.th t y)
    (hy : y = absTh ⟨c'.st, c'.writer, c'.readers, fun _ => x⟩ t) : Sim ls c' a' := by
  refine ⟨hst, fun u => ?_⟩
  rw [hth]
  refine forall_setCTh (P := fun u z => z = absTh c' u) ?_ (fun u hu => (hs.2 u).trans (hoth u hu).symm) u
  rw [hy, absTh_of (congrFun hc' t), setTh_self]

theorem ops_append (h h' : Hist) : Hist.ops (h ++ h') = h.ops ++ h'.ops :=
  List.map_append

/-- what `CInv` says about thread `t` with coarse state `y` and pending-lookup history `pre` -/
structure ThInv (ls : Nat) (prog : List Call) (hist : Hist) (log : List Rec) (t : Tid) (pre : Hist)
    (y : CThread) : Prop where
  restValid : ∀ c ∈ y.rest, c.valid
  proj : projOps hist t ++ writeOps y.rest = writeOps prog
  pendHead : ∀ ip, y.loaded = some ip → ∃ rest, y.rest = .contains ip :: rest
  pend : ∀ ip, y.loaded = some ip → pre <+: hist ∧ (crun ls pre.ops).matchAll = false
  results : (log.filter (fun r => r.tid = t)).map (·.result) = y.results

theorem CInv.thread (hi : CInv ls progs a) (t : Tid) :
    ThInv ls (progs t) a.hist a.log t (a.pre t) (a.th t) :=
  ⟨hi.restValid t, hi.proj t, hi.pendHead t, hi.pend t, hi.results t⟩

theorem CInv.of_threads (h1 : a.st = crun ls a.hist.ops)
    (h2 : ∀ op ∈ a.hist.ops, op.len ≤ 32)
    (h3 : ∀ r ∈ a.log, r.pre <+: r.whole ∧ r.whole <+: a.hist ∧
      r.result = C12.containsConc (crun ls r.pre.ops) (crun ls r.whole.ops) r.ip)
    (h : ∀ t, ThInv ls (progs t) a.hist a.log t (a.pre t) (a.th t)) : CInv ls progs a :=
  ⟨h1, h2, fun t => (h t).restValid, fun t => (h t).proj, fun t => (h t).pendHead, fun t => (h t).pend,
    h3, fun t => (h t).results⟩

variable {prog : List Call} {hist pre : Hist} {log : List Rec} {y : CThread}

/-- a writer step of another thread -/
theorem ThInv.hist_snoc (h : ThInv ls prog hist log u pre y) (hu : u ≠ t) (op : COp) :
    ThInv ls prog (hist ++ [(t, op)]) log u pre y := by
  refine ⟨h.restValid, ?_, h.pendHead,
    fun ip hl => ⟨(h.pend ip hl).1.trans (List.prefix_append ..), (h.pend ip hl).2⟩, h.results⟩
  rw [projOps, map_filter_snoc, if_neg (mt of_decide_eq_true (Ne.symm hu)), List.append_nil]
  exact h.proj

/-- a lookup record of another thread -/
theorem ThInv.log_snoc (h : ThInv ls prog hist log u pre y) {r : Rec} (hu : u ≠ r.tid) :
    ThInv ls prog hist (log ++ [r]) u pre y := by
  refine ⟨h.restValid, h.proj, h.pendHead, h.pend, ?_⟩
  rw [map_filter_snoc, if_neg (mt of_decide_eq_true (Ne.symm hu)), List.append_nil]
  exact h.results

theorem cinv_init (hv : Validated progs) : CInv ls progs (initCCfg progs) := by
  refine ⟨rfl, nofun, fun t c hc => ?_, fun _ => rfl, nofun, nofun, nofun, fun _ => rfl⟩
  have := hv t c hc
  cases c <;> exact this

/-- a lookup returns: one record, one result -/
theorem cinv_finish (hi : CInv ls progs a) {pre : Hist} {b : Bool} {lo : Option Addr}
    (hx : a.th t = ⟨.contains ip :: rest, lo, res⟩) (hp : pre <+: a.hist)
    (hb : b = C12.containsConc (crun ls pre.ops) a.st ip) :
    CInv ls progs { a with th := setCTh a.th t ⟨rest, none, res ++ [b]⟩,
                           log := a.log ++ [⟨t, ip, pre, a.hist, b⟩] } := by
  have ht := hi.thread t
  rw [hx] at ht
  refine .of_threads hi.state hi.len (fun r hr => ?_)
    (forall_setCTh ?_ fun u hu => (hi.thread u).log_snoc hu)
  · rcases List.mem_append.1 hr with hr | hr
    · exact hi.log r hr
    · rw [List.mem_singleton.1 hr]; exact ⟨hp, List.prefix_refl _, hi.state ▸ hb⟩
  · refine ⟨fun c hc => ht.restValid c (List.mem_cons_of_mem _ hc), ht.proj, nofun, nofun, ?_⟩
    rw [map_filter_snoc, if_pos (decide_eq_true rfl), ht.results]

theorem cinv_step {a' : CCfg} (hi : CInv ls progs a) (h : cstepT ls a t = some a') :
    CInv ls progs a' := by
  have ht := hi.thread t
  cases hx : a.th t with | mk rest lo res => ?_
  rw [hx] at ht
  cases lo with
  | some ip =>
    rw [cstepT_scan hx] at h; cases h
    obtain ⟨rest0, hr⟩ := ht.pendHead ip rfl
    cases hr
    have hp := ht.pend ip rfl
    exact cinv_finish hi hx hp.1 (by rw [C12.containsConc, hp.2]; rfl)
  | none =>
    cases rest with
    | nil => simp only [cstepT, hx] at h; cases h
    | cons call rest =>
      cases hop : call.op? with
      | some op =>
        -- a writer call: the state and the history move together
        rw [cstepT_write hx hop] at h; cases h
        have hlen : op.len ≤ 32 := by
          cases call <;> cases hop <;> exact ht.restValid _ List.mem_cons_self
        refine .of_threads ?_ (fun o ho => ?_) (fun r hr => ?_)
          (forall_setCTh ?_ fun u hu => (hi.thread u).hist_snoc hu _)
        · show _ = crun ls (Hist.ops (a.hist ++ _))
          rw [ops_append, C12.crun_append, ← hi.state]; rfl
        · rw [ops_append] at ho
          rcases List.mem_append.1 ho with ho | ho
          · exact hi.len o ho
          · rw [List.mem_singleton.1 ho]; exact hlen
        · exact ⟨(hi.log r hr).1, (hi.log r hr).2.1.trans (List.prefix_append ..), (hi.log r hr).2.2⟩
        · refine ⟨fun c hc => ht.restValid c (List.mem_cons_of_mem _ hc), ?_, nofun, nofun, ht.results⟩
          rw [← ht.proj, projOps, map_filter_snoc, if_pos (decide_eq_true rfl), List.append_assoc]
          exact congrArg _ (List.filterMap_cons_some hop).symm
      | none =>
        cases call with
        | add | remove => cases hop
        | contains ip =>
        cases hm : a.st.matchAll with
        | true =>
          rw [cstepT_loadT hx hm] at h; cases h
          exact cinv_finish hi hx (List.prefix_refl _) (by rw [C12.containsConc, ← hi.state, hm]; rfl)
        | false =>
          -- the load saw `matchAll = false`: the lookup is pending
          rw [cstepT_loadF hx hm] at h; cases h
          refine .of_threads hi.state hi.len hi.log (forall_setCTh ?_ fun u hu => ?_)
          · refine ⟨ht.restValid, ht.proj, fun _ h => ⟨rest, Option.some.inj h ▸ rfl⟩, fun _ _ => ?_,
              ht.results⟩
            simp only [setPre, if_pos, ← hi.state]
            exact ⟨List.prefix_refl _, hm⟩
          · simp only [setPre, if_neg hu]
            exact hi.thread u

theorem cinv_reachable (hv : Validated progs) (h : CReachable ls progs a) : CInv ls progs a := by
  induction h with
  | init => exact cinv_init hv
  | step t _ hs ih => exact cinv_step ih hs

theorem projOps_eq_filter_owner (keyOwner : Addr × Nat → Tid) (h : Hist)
    (hown : ∀ e ∈ h, keyOwner (C12.opKey e.2) = e.1) (w : Tid) :
    h.ops.filter (fun o => keyOwner (C12.opKey o) = w) = projOps h w := by
  rw [Hist.ops, List.filter_map]
  exact congrArg _ (List.filter_congr fun e he => by rw [Function.comp_apply, hown e he])

theorem mem_projOps (h : Hist) (e : Tid × COp) (he : e ∈ h) : e.2 ∈ projOps h e.1 :=
  List.mem_map.2 ⟨e, List.mem_filter.2 ⟨he, decide_eq_true rfl⟩, rfl⟩

end Glb.FilterConc
