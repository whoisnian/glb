/-
  A concrete run of `cfg 2 1` (two lanes, queue capacity 1) built from explicit `Step`s, used by the
  non-vacuity `example`s of the TaskLane property files:

    push(7, lane 1) · producer default · producer sends into buf[1]        (d3: task 7 pending in the buffer)
    · queue 1 receives · cnt++ · queue default                             (d6: pending in the queue goroutine's hand)
    · worker 1 default · default · parks · queue 1 hands over on `own`     (d10: pending in the worker's hand)
    · worker 1 calls Start()                                               (d11: started, running)
    · PushTask returns nil · the task panics with 42                       (d13: finished, lastPanic = 42)

  plus a run `e1…e4` in which `PushTask(9, lane 0)` times out, and a run `i1…i4` of `cfg 1 1` into the
  idle state (worker and queue goroutine parked), given by its labels and proved `Quiescent`.
-/
import Glb.Proofs.TaskLaneTraces

namespace Glb.TaskLane.Demo

abbrev c : Cfg := cfg 2 1

def d1 : St :=
  { init with ps := upd init.ps init.np { pc := 0, parked := false, held := 7 },
              plane := upd init.plane init.np 1, np := init.np + 1 }
def d2 : St := d1.set (.p 0) (goto (d1.get (.p 0)) 1)
def d3 : St := let s1 := localEffect d2 (.p 0) (.send .buf); s1.set (.p 0) (goto (s1.get (.p 0)) 3)
def d4 : St := let s1 := localEffect d3 (.q 1) (.recv .buf); s1.set (.q 1) (goto (s1.get (.q 1)) 1)
def d5 : St := { d4 with cnt := d4.cnt + 1 }.set (.q 1) (goto (d4.get (.q 1)) 2)
def d6 : St := d5.set (.q 1) (goto (d5.get (.q 1)) 3)
def d7 : St := d6.set (.w 1) (goto (d6.get (.w 1)) 1)
def d8 : St := d7.set (.w 1) (goto (d7.get (.w 1)) 2)
def d9 : St := d8.set (.w 1) { d8.get (.w 1) with parked := true }
def d10 : St :=
  let s1 := if Ch.own = .buf then { d9 with accepted := d9.accepted ++ [(d9.get (.q 1)).held] } else d9
  let s2 := s1.set (.q 1) (goto (s1.get (.q 1)) 5)
  s2.set (.w 1) { goto (s2.get (.w 1)) 3 with held := (d9.get (.q 1)).held }
def d11 : St :=
  { d10 with ws := upd d10.ws 1 { d10.ws 1 with parked := true }, started := d10.started ++ [(d10.ws 1).held] }
def d12 : St :=
  { d11 with ps := upd d11.ps 0 (goto (d11.ps 0) 5), results := d11.results ++ [((d11.ps 0).held, .nil)] }
def d13 : St :=
  { d12 with ws := upd d12.ws 1 (goto (d12.ws 1) 0), finished := d12.finished ++ [(d12.ws 1).held],
             lastPanic := match some 42 with | some x => some x | none => d12.lastPanic,
             panics := match some 42 with | some x => d12.panics ++ [x] | none => d12.panics }

theorem step1 : Step c init (.push 0 7 1) d1 :=
  Step.push init 7 1 (by decide) fun k hk => absurd hk (Nat.not_lt_zero k)

theorem step2 : Step c d1 .tau d2 :=
  Step.dflt d1 (.p 0) [(.done, 2)] 1 (by decide) rfl rfl (none_ready_cons (not_ready_done rfl) none_ready_nil)

theorem step3 : Step c d2 .tau d3 :=
  Step.takeLocal d2 (.p 0) [(.done, 2), (.send .buf, 3), (.timeout, 4)] none (.send .buf) 3
    (by decide) rfl (by simp) (by show (d2.buf (d2.lane (.p 0))).length < 1; decide)

theorem step4 : Step c d3 .tau d4 :=
  Step.takeLocal d3 (.q 1) [(.done, 6), (.recv .buf, 1)] none (.recv .buf) 1
    (by decide) rfl (by simp) (by show d3.buf (d3.lane (.q 1)) ≠ []; decide)

theorem step5 : Step c d4 .tau d5 := Step.incCnt d4 (.q 1) 2 (by decide) rfl

theorem step6 : Step c d5 .tau d6 :=
  Step.dflt d5 (.q 1) [(.done, 6)] 3 (by decide) rfl rfl (none_ready_cons (not_ready_done rfl) none_ready_nil)

theorem step7 : Step c d6 .tau d7 :=
  Step.dflt d6 (.w 1) [(.done, 4)] 1 (by decide) rfl rfl (none_ready_cons (not_ready_done rfl) none_ready_nil)

theorem step8 : Step c d7 .tau d8 :=
  Step.dflt d7 (.w 1) [(.recv .own, 3)] 2 (by decide) rfl rfl
    (none_ready_cons (not_ready_recv_w nofun (lt_two (by decide) (by decide))) none_ready_nil)

theorem step9 : Step c d8 .tau d9 :=
  Step.park d8 (.w 1) [(.done, 4), (.recv .own, 3), (.recv .uni, 3)] (by decide) rfl rfl
    (none_ready_cons (not_ready_done rfl)
      (none_ready_cons (not_ready_recv_w nofun (lt_two (by decide) (by decide)))
        (none_ready_cons (not_ready_recv_w nofun (lt_two (by decide) (by decide))) none_ready_nil)))

theorem step10 : Step c d9 .tau d10 :=
  Step.handover d9 (.q 1) (.w 1) [(.send .own, 5)] (some 4) .own 5 3 (by decide) rfl (by simp)
    (by simp) (by simp)
    ⟨by decide, rfl, [(.done, 4), (.recv .own, 3), (.recv .uni, 3)], rfl, by simp, rfl⟩

theorem step11 : Step c d10 (.start 1 7) d11 := Step.start d10 1 0 (by decide) rfl rfl

theorem step12 : Step c d11 (.pushRet 0 7 .nil) d12 :=
  Step.pushRet d11 0 .retNil 5 .nil (by decide) rfl (by simp)

theorem step13 : Step c d12 (.finish 1 7 (some 42)) d13 := Step.finish d12 1 0 (some 42) (by decide) rfl rfl

theorem reach3 : Reachable c d3 := ((Reachable.init.step _ _ _ step1).step _ _ _ step2).step _ _ _ step3
theorem reach4 : Reachable c d4 := reach3.step _ _ _ step4
theorem reach6 : Reachable c d6 := ((reach4).step _ _ _ step5).step _ _ _ step6
theorem reach10 : Reachable c d10 :=
  (((reach6.step _ _ _ step7).step _ _ _ step8).step _ _ _ step9).step _ _ _ step10
theorem reach11 : Reachable c d11 := reach10.step _ _ _ step11
theorem reach12 : Reachable c d12 := reach11.step _ _ _ step12
theorem reach13 : Reachable c d13 := reach12.step _ _ _ step13

/-! a second run: `PushTask(9, lane 0)` times out (nothing is enqueued) -/

def e1 : St :=
  { init with ps := upd init.ps init.np { pc := 0, parked := false, held := 9 },
              plane := upd init.plane init.np 0, np := init.np + 1 }
def e2 : St := e1.set (.p 0) (goto (e1.get (.p 0)) 1)
def e3 : St := let s1 := localEffect e2 (.p 0) .timeout; s1.set (.p 0) (goto (s1.get (.p 0)) 4)
def e4 : St :=
  { e3 with ps := upd e3.ps 0 (goto (e3.ps 0) 5), results := e3.results ++ [((e3.ps 0).held, .timeout)] }

theorem estep1 : Step c init (.push 0 9 0) e1 :=
  Step.push init 9 0 (by decide) fun k hk => absurd hk (Nat.not_lt_zero k)

theorem estep2 : Step c e1 .tau e2 :=
  Step.dflt e1 (.p 0) [(.done, 2)] 1 (by decide) rfl rfl (none_ready_cons (not_ready_done rfl) none_ready_nil)

theorem estep3 : Step c e2 (.timeout 0) e3 :=
  Step.takeLocal e2 (.p 0) [(.done, 2), (.send .buf, 3), (.timeout, 4)] none .timeout 4
    (by decide) rfl (by simp) trivial

theorem estep4 : Step c e3 (.pushRet 0 9 .timeout) e4 :=
  Step.pushRet e3 0 .retTimeout 5 .timeout (by decide) rfl (by simp)

theorem ereach4 : Reachable c e4 :=
  (((Reachable.init.step _ _ _ estep1).step _ _ _ estep2).step _ _ _ estep3).step _ _ _ estep4


/-! a third run, of `cfg 1 1`: the lane goes idle (worker and queue goroutine park) — a quiescent state -/

abbrev c1 : Cfg := cfg 1 1

def i1 : St := init.set (.w 0) (goto (init.get (.w 0)) 1)
def i2 : St := i1.set (.w 0) (goto (i1.get (.w 0)) 2)
def i3 : St := i2.set (.w 0) { i2.get (.w 0) with parked := true }
def i4 : St := i3.set (.q 0) { i3.get (.q 0) with parked := true }

def ei4 : Exec.ESt := { buf := #[[]], qs := #[⟨0, true, 0⟩], ws := #[⟨2, true, 0⟩] }

theorem rep_i4 : Exec.toSt ei4 = i4 := by
  show St.mk .. = St.mk ..
  congr 1 <;> funext i <;> rcases i with _ | _ | i <;> rfl

theorem run_i4 : Reachable c1 (Exec.toSt ei4) ∧ Exec.WF c1 ei4 :=
  Exec.reachable_run (Exec.reachable_einit c1) (ls := [.dflt (.w 0), .dflt (.w 0), .park (.w 0), .park (.q 0)])
    (by decide)

theorem ireach4 : Reachable c1 i4 := rep_i4 ▸ run_i4.1

theorem i4_quiescent : Quiescent c1 i4 := Exec.quiescent_of_enum run_i4.2 rep_i4 (by decide)

end Glb.TaskLane.Demo
