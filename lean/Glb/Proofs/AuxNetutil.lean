/- Lemmas about FirstIP / LastIP / SplitHostPort models. -/
import Glb.Model.AuxNetutil
import Glb.Go.Lemmas

namespace Glb.Aux.Net
open Glb

instance containsDec (ip mask x : Bytes) : Decidable (contains ip mask x) :=
  inferInstanceAs (Decidable (_ ∧ _))

theorem byte_ext (a b : UInt8) (h : ∀ i < 8, a.toBitVec.getLsbD i = b.toBitVec.getLsbD i) : a = b :=
  UInt8.eq_of_toBitVec_eq (BitVec.eq_of_getLsbD_eq h)

theorem and_le (x m : UInt8) : x &&& m ≤ x := by
  rw [UInt8.le_iff_toNat_le, UInt8.toNat_and]
  exact Nat.and_le_left

theorem sub_or (x m : UInt8) : x ||| ((x &&& m) ||| ~~~m) = (x &&& m) ||| ~~~m := by
  apply byte_ext
  intro i hi
  simp
  cases x.toBitVec.getLsbD i <;> cases m.toBitVec.getLsbD i <;> simp [hi]

theorem le_or_not (x m : UInt8) : x ≤ (x &&& m) ||| ~~~m := by
  rw [← sub_or, UInt8.le_iff_toNat_le, UInt8.toNat_or]
  exact Nat.left_le_or

theorem and_or_not_and (a m : UInt8) : ((a &&& m) ||| ~~~m) &&& m = a &&& m := by
  apply byte_ext
  intro i hi
  simp
  cases a.toBitVec.getLsbD i <;> cases m.toBitVec.getLsbD i <;> simp [hi]

theorem and_and (a m : UInt8) : (a &&& m) &&& m = a &&& m := by
  rw [UInt8.and_assoc, UInt8.and_self]

theorem zipWith_zipWith_right {α β} (f g h : α → β → α) (e : ∀ x y, f (g x y) y = h x y) :
    ∀ (a : List α) (m : List β), List.zipWith f (List.zipWith g a m) m = List.zipWith h a m
  | [], _ => rfl
  | _ :: _, [] => rfl
  | x :: a, y :: m => by
    rw [List.zipWith_cons_cons, List.zipWith_cons_cons, List.zipWith_cons_cons, e,
      zipWith_zipWith_right f g h e a m]

theorem lastIPLoop_eq (mask : Bytes) : ∀ (i : Nat) (ip : Bytes), i ≤ ip.length → i ≤ mask.length →
    lastIPLoop mask i ip = .ok (orNotBytes (ip.take i) (mask.take i) ++ ip.drop i) := by
  intro i
  induction i with
  | zero => intro ip _ _; rfl
  | succ i ih =>
    intro ip hi hm
    rw [lastIPLoop, Go.idx?_ok ip i hi, Go.idx?_ok mask i hm]
    show lastIPLoop mask i (ip.set i (ip[i] ||| ~~~mask[i])) = _
    rw [ih _ (by simp; omega) (by omega)]
    congr 1
    have hs : i < (ip.set i (ip[i] ||| ~~~mask[i])).length := by simp; omega
    rw [List.take_set_of_le (Nat.le_refl _), List.drop_eq_getElem_cons hs, List.getElem_set_self,
      List.drop_set_of_lt (Nat.lt_succ_self _), List.take_succ_eq_append_getElem hi,
      List.take_succ_eq_append_getElem hm]
    unfold orNotBytes
    rw [List.zipWith_append (by simp; omega)]
    simp

theorem andBytes_length (a b : Bytes) (h : a.length = b.length) : (andBytes a b).length = a.length := by
  simp [andBytes, h]

theorem ipMask_same (ip mask : Bytes) (h : ip.length = mask.length) :
    ipMask ip mask = some (andBytes ip mask) := by
  unfold ipMask
  have h1 : ¬ (mask.length = 16 ∧ ip.length = 4 ∧ allFF (mask.take 12) = true) := by omega
  simp only [h1, if_false]
  have h2 : ¬ (mask.length = 4 ∧ ip.length = 16 ∧ ip.take 12 = v4InV6Prefix) := by omega
  rw [if_neg h2]
  simp [h]

/-- the v4-in-v6 form of the IP with a 4-byte mask: `Mask` answers in the 4-byte form -/
theorem ipMask_mapped (a mask : Bytes) (ha : a.length = 4) (hm : mask.length = 4) :
    ipMask (v4InV6Prefix ++ a) mask = some (andBytes a mask) := by
  unfold ipMask
  have h1 : ¬ (mask.length = 16 ∧ (v4InV6Prefix ++ a).length = 4 ∧ allFF (mask.take 12) = true) := by omega
  simp only [h1, if_false]
  have h2 : mask.length = 4 ∧ (v4InV6Prefix ++ a).length = 16 ∧ (v4InV6Prefix ++ a).take 12 = v4InV6Prefix :=
    ⟨hm, by simp [v4InV6Prefix, ha], List.take_left' rfl⟩
  rw [if_pos h2, List.drop_left' (l₁ := v4InV6Prefix) (i := 12) rfl]
  simp [ha, hm]

/-- `LastIP` when `Mask` answers `a & mask` for an `a` as long as the mask: the loop sets its host bits -/
theorem lastIP_of_mask (ip mask a : Bytes) (hr : ipMask ip mask = some (andBytes a mask))
    (hl : a.length = mask.length) : lastIP ip mask = .ok (some (orNotBytes (andBytes a mask) mask)) := by
  have hl' := andBytes_length a mask hl
  unfold lastIP
  rw [hr]
  simp only
  rw [lastIPLoop_eq mask mask.length _ (by omega) (Nat.le_refl _), List.take_of_length_le (by omega),
    List.take_of_length_le (Nat.le_refl _), List.drop_of_length_le (by omega)]
  simp

theorem and_and_bytes (a m : Bytes) : andBytes (andBytes a m) m = andBytes a m :=
  zipWith_zipWith_right _ _ _ and_and a m

theorem orNot_and_bytes (a m : Bytes) : andBytes (orNotBytes (andBytes a m) m) m = andBytes a m := by
  unfold andBytes orNotBytes
  rw [zipWith_zipWith_right (fun b m => b ||| ~~~m) (· &&& ·) _ (fun _ _ => rfl),
    zipWith_zipWith_right _ _ (· &&& ·) and_or_not_and]

/-- every address of the network lies bytewise between the first and the last one -/
theorem bounds_aux (x m : Bytes) (h : x.length = m.length) :
    leAll (andBytes x m) x ∧ leAll x (orNotBytes (andBytes x m) m) := by
  induction x generalizing m with
  | nil => cases m <;> simp_all [andBytes, orNotBytes, leAll]
  | cons a x ih =>
    cases m with
    | nil => simp at h
    | cons b m =>
      have := ih m (by simpa using h)
      exact ⟨⟨and_le a b, this.1⟩, ⟨le_or_not a b, this.2⟩⟩

theorem bounds (ip mask x : Bytes) (h : ip.length = mask.length) (hx : contains ip mask x) :
    leAll (andBytes ip mask) x ∧ leAll x (orNotBytes (andBytes ip mask) mask) := by
  obtain ⟨hl, he⟩ := hx
  rw [← he]
  exact bounds_aux x mask (by omega)

theorem leAll_length : ∀ (a b : Bytes), leAll a b → a.length = b.length := by
  intro a b h
  fun_induction leAll a b <;> simp_all

theorem foldl_mono (a b : Bytes) (h : leAll a b) : ∀ (p q : Nat), p ≤ q →
    a.foldl (fun acc x => acc * 256 + x.toNat) p ≤ b.foldl (fun acc x => acc * 256 + x.toNat) q := by
  fun_induction leAll a b with
  | case1 => exact fun _ _ h => h
  | case2 x a y b ih =>
    intro p q hpq
    have := UInt8.le_iff_toNat_le.mp h.1
    exact ih h.2 (p * 256 + x.toNat) (q * 256 + y.toNat) (by omega)
  | case3 => exact h.elim

theorem leAll_beNat (a b : Bytes) (h : leAll a b) : beNat a ≤ beNat b :=
  foldl_mono a b h 0 0 (Nat.le_refl _)

theorem lastColon_none (s : Bytes) : lastColon s = none ↔ colon ∉ s := by
  fun_induction lastColon s with
  | case1 => simp
  | case2 c rest j h ih => simp [show colon ∈ rest from Classical.not_not.mp (mt ih.mpr (by simp [h]))]
  | case3 rest h ih => simp
  | case4 c rest h hc ih => simp [ih.mp h, Ne.symm hc]

theorem lastColon_append (h p : Bytes) (hp : colon ∉ p) : lastColon (h ++ colon :: p) = some h.length := by
  induction h <;> simp_all [lastColon, (lastColon_none p).mpr hp]

theorem mem_last {α} {c : α} {s : List α} (h : c ∈ s) : ∃ a p, s = a ++ c :: p ∧ c ∉ p := by
  obtain ⟨as, bs, e, hn⟩ := List.eq_append_cons_of_mem (List.mem_reverse.mpr h)
  exact ⟨bs.reverse, as.reverse, by simpa using congrArg List.reverse e, by simpa using hn⟩

theorem slice_left (h r : Bytes) : slice? (h ++ r) 0 h.length = .ok h := by
  simp [slice?]

theorem slice_right (h : Bytes) (c : UInt8) (p : Bytes) :
    slice? (h ++ c :: p) (h.length + 1) (h ++ c :: p).length = .ok p := by
  rw [Go.slice?_from _ _ (by simp), ← List.drop_drop, List.drop_left' rfl]
  rfl

theorem split_nocolon (addr : Bytes) (h : colon ∉ addr) : splitHostPort addr = .ok (addr, []) := by
  simp [splitHostPort, (lastColon_none addr).mpr h]

/-- the test `addr[0] == '[' && addr[i-1] == ']'` at the colon behind `h`, followed by any `K`:
    it reads the first and the last byte of `h` (the colon itself when `h` is empty) -/
theorem bracket_test (h r : Bytes) :
    ∃ b, (b = true ↔ Bracketed h) ∧ ∀ {β} (K : Bool → Except GoPanic β),
      (do let a0 ← idx? (h ++ colon :: r) 0
          if a0 = lbr then (do let z ← idxPred? (h ++ colon :: r) h.length; pure (decide (z = rbr))) >>= K
          else pure false >>= K) = K b := by
  cases h with
  | nil => exact ⟨false, by simp [Bracketed], fun _ => rfl⟩
  | cons c t =>
    by_cases hc : c = lbr
    · subst hc
      rcases List.eq_nil_or_concat t with rfl | ⟨g, z, rfl⟩
      · exact ⟨false, by simp [Bracketed], fun _ => rfl⟩
      · rw [List.concat_eq_append]
        have : idxPred? (lbr :: (g ++ [z]) ++ colon :: r) (lbr :: (g ++ [z])).length = .ok z := by
          simp [idxPred?, idx?]
        exact ⟨decide (z = rbr), by simp [Bracketed], fun K => by rw [this]; rfl⟩
    · refine ⟨false, by simp [Bracketed, hc], fun K => ?_⟩
      show (if c = lbr then _ else _) = _
      rw [if_neg hc]
      rfl

theorem split_plain (h p : Bytes) (hp : colon ∉ p) (hb : ¬ Bracketed h) :
    splitHostPort (h ++ colon :: p) = .ok (h, p) := by
  obtain ⟨b, hiff, ht⟩ := bracket_test h p
  have hf : b = false := by cases b; rfl; exact absurd (hiff.mp rfl) hb
  unfold splitHostPort
  rw [lastColon_append h p hp]
  simp only
  rw [ht, hf, slice_left, slice_right]
  rfl

theorem split_bracket (g p : Bytes) (hp : colon ∉ p) :
    splitHostPort (lbr :: g ++ rbr :: colon :: p) = .ok (g, p) := by
  have e : lbr :: g ++ rbr :: colon :: p = (lbr :: g ++ [rbr]) ++ colon :: p := by simp
  obtain ⟨b, hiff, ht⟩ := bracket_test (lbr :: g ++ [rbr]) p
  have h2 : slicePred? ((lbr :: g ++ [rbr]) ++ colon :: p) 1 (lbr :: g ++ [rbr]).length = .ok g := by
    simp [slicePred?, slice?]
  unfold splitHostPort
  rw [e, lastColon_append _ p hp]
  simp only
  rw [ht, hiff.mpr ⟨g, rfl⟩, h2, slice_right]
  rfl

/-- every address is of one of three shapes, and on each the result is known -/
theorem split_shape (addr : Bytes) :
    (colon ∉ addr ∧ splitHostPort addr = .ok (addr, [])) ∨
    ∃ h p, colon ∉ p ∧ splitHostPort addr = .ok (h, p) ∧
      ((addr = h ++ colon :: p ∧ ¬ Bracketed h) ∨ addr = lbr :: h ++ rbr :: colon :: p) := by
  by_cases hc : colon ∈ addr
  · obtain ⟨a, p, rfl, hp⟩ := mem_last hc
    by_cases hb : Bracketed a
    · obtain ⟨g, rfl⟩ := hb
      exact .inr ⟨g, p, hp, by simpa using split_bracket g p hp, .inr (by simp)⟩
    · exact .inr ⟨a, p, hp, split_plain a p hp hb, .inl ⟨rfl, hb⟩⟩
  · exact .inl ⟨hc, split_nocolon addr hc⟩

theorem split_total (addr : Bytes) : ∃ h p, splitHostPort addr = .ok (h, p) := by
  rcases split_shape addr with ⟨_, e⟩ | ⟨h, p, _, e, _⟩
  · exact ⟨_, _, e⟩
  · exact ⟨h, p, e⟩

theorem split_spec (addr h p : Bytes) (hs : splitHostPort addr = .ok (h, p)) :
    (colon ∉ addr ∧ h = addr ∧ p = []) ∨
    (colon ∉ p ∧ ((addr = h ++ colon :: p ∧ ¬ Bracketed h) ∨ addr = lbr :: h ++ rbr :: colon :: p)) := by
  rcases split_shape addr with ⟨hn, e⟩ | ⟨g, q, hq, e, hsh⟩
  · rw [e] at hs; cases hs
    exact .inl ⟨hn, rfl, rfl⟩
  · rw [e] at hs; cases hs
    exact .inr ⟨hq, hsh⟩

end Glb.Aux.Net
