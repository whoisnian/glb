/-
  Helper lemmas for C11/C12.  Byte level: `net.simpleMaskLength` accepts only masks of the form
  1ⁿ0* (`simpleMaskLength_sound`), and `validate` has three outcomes (`validate_cases`).
  State level: the locked part of the IPv4Filter state stands for a set of (network, prefix-length)
  pairs with lengths 1..32 (`Stored`), and `addCore`/`removeCore`/`scan` are insertion, deletion
  and lookup on that set.
-/
import Glb.Model.Filter

namespace Glb.Filter

/-- the byte with `min k 8` leading ones -/
def prefixByte (k : Nat) : UInt8 := UInt8.ofNat (256 - 2 ^ (8 - min k 8))

/-- the 4-byte mask with `n` leading ones, `net.CIDRMask(n, 32)` -/
def cidrMask (n : Nat) : Bytes :=
  [prefixByte n, prefixByte (n - 8), prefixByte (n - 16), prefixByte (n - 24)]

/-- `len` mask bytes with `n` leading ones -/
def maskBytes : Nat → Nat → Bytes
  | 0, _ => []
  | l + 1, n => prefixByte n :: maskBytes l (n - 8)

theorem cidrMask_eq (n : Nat) : cidrMask n = maskBytes 4 n := by
  simp [cidrMask, maskBytes, Nat.sub_sub]

theorem prefixByte_ge8 (k : Nat) (h : 8 ≤ k) : prefixByte k = 0xff := by
  unfold prefixByte; rw [Nat.min_eq_right h]; decide

theorem prefixByte_leadingOnes (b : UInt8) (h : isPrefixByte b = true) :
    prefixByte (leadingOnes8 b) = b ∧ leadingOnes8 b ≤ 8 := by
  unfold isPrefixByte at h
  simp only [Bool.or_eq_true, beq_iff_eq] at h
  rcases h with (((((((h | h) | h) | h) | h) | h) | h) | h) | h <;> subst h <;> decide

theorem all_zero_eq (l : Bytes) (h : l.all (· == 0) = true) : l = maskBytes l.length 0 := by
  induction l with
  | nil => rfl
  | cons a l ih =>
    rw [List.all_cons, Bool.and_eq_true, beq_iff_eq] at h
    rw [List.length_cons, maskBytes, Nat.zero_sub, ← ih h.2, h.1]
    rfl

/-- `net.simpleMaskLength` succeeds only on canonical masks 1ⁿ0* -/
theorem simpleMaskLength_sound (m : Bytes) (n : Nat) (h : simpleMaskLength m = some n) :
    m = maskBytes m.length n ∧ n ≤ 8 * m.length := by
  induction m generalizing n with
  | nil => cases h; exact ⟨rfl, Nat.le_refl _⟩
  | cons b rest ih =>
    rw [simpleMaskLength] at h
    split at h
    · rename_i hb
      obtain ⟨k, hk, rfl⟩ := Option.map_eq_some_iff.1 h
      obtain ⟨h1, h2⟩ := ih k hk
      rw [List.length_cons, maskBytes, prefixByte_ge8 _ (Nat.le_add_left ..), Nat.add_sub_cancel, ← h1,
        eq_of_beq hb, Nat.mul_succ]
      exact ⟨rfl, Nat.add_le_add_right h2 8⟩
    · split at h
      · rename_i hc
        cases h
        obtain ⟨hp, hl⟩ := prefixByte_leadingOnes b hc.1
        rw [List.length_cons, maskBytes, hp, Nat.sub_eq_zero_of_le hl, ← all_zero_eq rest hc.2]
        exact ⟨rfl, Nat.le_trans hl (Nat.le_mul_of_pos_right 8 (Nat.succ_pos _))⟩
      · cases h

/-- the three outcomes of argument validation, with what `cidr.Mask.Size()` returned in each -/
theorem validate_cases (ip mask : Bytes) :
    (validate ip mask = .invalid ∧
      (((maskSize mask).2 : Int) ≠ 32 ∨ ((maskSize mask).1 : Int) > 32 ∨ ip.length ≠ 4)) ∨
    (validate ip mask = .zero ∧ maskSize mask = (0, 32) ∧ ip.length = 4) ∨
    ∃ n, validate ip mask = .pfx (be32 ip) n ∧ maskSize mask = (n, 32) ∧ ip.length = 4 ∧
      1 ≤ n ∧ n ≤ 32 := by
  unfold validate
  obtain ⟨ones, bits⟩ := maskSize mask
  dsimp only
  by_cases hbad : bits ≠ 32 ∨ ones > 32 ∨ ip.length ≠ 4
  · rw [if_pos hbad]
    exact Or.inl ⟨rfl, hbad.imp (fun h e => h (Int.ofNat.inj e)) (Or.imp_left Int.ofNat_lt.2)⟩
  · rw [if_neg hbad]
    simp only [not_or, Decidable.not_not, Nat.not_lt] at hbad
    obtain ⟨rfl, ho, hl⟩ := hbad
    by_cases h0 : ones = 0
    · rw [if_pos h0, h0]
      exact Or.inr (Or.inl ⟨rfl, rfl, hl⟩)
    · rw [if_neg h0]
      exact Or.inr (Or.inr ⟨ones, rfl, rfl, hl, Nat.pos_of_ne_zero h0, ho⟩)

theorem maskTable : ∀ n ∈ List.range' 1 32, maskOf n = prefixMask n := by decide

theorem maskOf_eq (n : Nat) (h1 : 1 ≤ n) (h2 : n ≤ 32) : maskOf n = prefixMask n :=
  maskTable n (by rw [List.mem_range'_1]; omega)

theorem prefixMask_zero : prefixMask 0 = 0 := by decide

/-- well-formedness: every stored prefix length is ≤ 32 (a zeroed list slot has length 0),
    map entries have length 1..32 -/
structure WF (s : St) : Prop where
  list : ∀ e ∈ s.list, e.2 ≤ 32
  maps : ∀ e ∈ s.maps, 1 ≤ e.1 ∧ e.1 ≤ 32

theorem wf_init : WF init := ⟨by simp [init], by simp [init]⟩

/-- `x` is one of the prefixes the locked part of the state holds -/
def Stored (s : St) (x : Addr × Nat) : Prop :=
  if s.mapsMode then (x.2, x.1) ∈ s.maps else x ∈ s.list ∧ 0 < x.2

variable {ls : Nat} {s : St} {a : Addr} {n : Nat}

theorem addCore_list (hm : s.mapsMode = false) (hl : s.list.length < ls) :
    addCore ls s a n = { s with list := s.list ++ [(a &&& maskOf n, n)] } := by
  simp [addCore, hm, hl]

theorem addCore_migrate (hm : s.mapsMode = false) (hl : ¬ s.list.length < ls) :
    addCore ls s a n =
      { s with mapsMode := true, maps := mapsInsert (migrate s.list) (n, a &&& maskOf n) } := by
  simp [addCore, hm, hl]

theorem addCore_maps (hm : s.mapsMode = true) :
    addCore ls s a n = { s with maps := mapsInsert s.maps (n, a &&& maskOf n) } := by
  simp [addCore, hm]

theorem removeCore_list (hm : s.mapsMode = false) :
    removeCore s a n = { s with list := s.list.map fun e =>
      if n = e.2 ∧ (a &&& maskOf n) = e.1 then (0, 0) else e } := by
  simp [removeCore, hm]

theorem removeCore_maps (hm : s.mapsMode = true) :
    removeCore s a n = { s with maps := s.maps.filter fun e => !(e == (n, a &&& maskOf n)) } := by
  simp [removeCore, hm]

theorem stored_list (hm : s.mapsMode = false) (x : Addr × Nat) :
    Stored s x ↔ x ∈ s.list ∧ 0 < x.2 := by
  rw [Stored, if_neg (hm ▸ Bool.false_ne_true)]

theorem stored_maps (hm : s.mapsMode = true) (x : Addr × Nat) : Stored s x ↔ (x.2, x.1) ∈ s.maps := by
  rw [Stored, if_pos hm]

/-- the stored prefixes have lengths 1..32; in particular `0.0.0.0/0` is never among them -/
theorem WF.bounds (h : WF s) (x : Addr × Nat) (hx : Stored s x) : 1 ≤ x.2 ∧ x.2 ≤ 32 := by
  cases hm : s.mapsMode
  · rw [stored_list hm] at hx
    exact ⟨hx.2, h.list x hx.1⟩
  · rw [stored_maps hm] at hx
    exact h.maps _ hx

theorem mem_mapsInsert (m : List (Nat × Addr)) (e x : Nat × Addr) :
    x ∈ mapsInsert m e ↔ x ∈ m ∨ x = e := by
  unfold mapsInsert
  split
  · exact (or_iff_left_of_imp (· ▸ ‹_›)).symm
  · simp

theorem mem_migrate_aux (l : List (Addr × Nat)) (acc : List (Nat × Addr)) (x : Nat × Addr) :
    x ∈ l.foldl (fun m e => if e.2 > 0 then mapsInsert m (e.2, e.1) else m) acc ↔
      x ∈ acc ∨ ((x.2, x.1) ∈ l ∧ x.1 > 0) := by
  induction l generalizing acc with
  | nil => simp
  | cons e l ih =>
    rw [List.foldl_cons, ih, List.mem_cons, or_and_right, ← or_assoc]
    refine or_congr_left ?_
    split
    · rw [mem_mapsInsert]
      exact or_congr_right ⟨fun h => h ▸ ⟨rfl, ‹e.2 > 0›⟩, fun h => h.1 ▸ rfl⟩
    · exact (or_iff_left fun ⟨h1, h2⟩ => ‹¬ e.2 > 0› (h1 ▸ h2)).symm

theorem mem_migrate (l : List (Addr × Nat)) (x : Nat × Addr) :
    x ∈ migrate l ↔ ((x.2, x.1) ∈ l ∧ x.1 > 0) := by
  unfold migrate; rw [mem_migrate_aux]; simp

theorem swap_eq (x : Addr × Nat) : (x.2, x.1) = (n, a) ↔ x = (a, n) := by
  rw [Prod.mk.injEq, Prod.ext_iff, and_comm]

theorem stored_addCore (hn : 1 ≤ n) (x : Addr × Nat) :
    Stored (addCore ls s a n) x ↔ Stored s x ∨ x = (a &&& maskOf n, n) := by
  cases hm : s.mapsMode
  · by_cases hl : s.list.length < ls
    · rw [addCore_list hm hl, stored_list (by exact hm), stored_list hm,
        List.mem_append, List.mem_singleton, or_and_right]
      exact or_congr_right (and_iff_left_of_imp fun h => h ▸ hn)
    · rw [addCore_migrate hm hl, stored_maps rfl, stored_list hm,
        mem_mapsInsert, mem_migrate, swap_eq]
  · rw [addCore_maps hm, stored_maps (by exact hm), stored_maps hm,
      mem_mapsInsert, swap_eq]

theorem stored_removeCore (x : Addr × Nat) :
    Stored (removeCore s a n) x ↔ Stored s x ∧ x ≠ (a &&& maskOf n, n) := by
  cases hm : s.mapsMode
  · rw [removeCore_list hm, stored_list (by exact hm), stored_list hm, List.mem_map]
    constructor
    · rintro ⟨⟨e, he, rfl⟩, hx⟩
      split at hx
      · exact absurd hx (Nat.lt_irrefl 0)
      · rename_i hc
        rw [if_neg hc]
        exact ⟨⟨he, hx⟩, fun h => hc (h ▸ ⟨rfl, rfl⟩)⟩
    · rintro ⟨⟨hx, hp⟩, hne⟩
      exact ⟨⟨x, hx, if_neg fun h => hne (Prod.ext h.2.symm h.1.symm)⟩, hp⟩
  · rw [removeCore_maps hm, stored_maps (by exact hm), stored_maps hm, List.mem_filter,
      Bool.not_eq_true', beq_eq_false_iff_ne, Ne, swap_eq]

theorem wf_addCore (hn : 1 ≤ n) (hn' : n ≤ 32) (h : WF s) : WF (addCore ls s a n) := by
  cases hm : s.mapsMode
  · by_cases hl : s.list.length < ls
    · rw [addCore_list hm hl]
      exact ⟨fun e he => (List.mem_append.1 he).elim (h.list e) (List.mem_singleton.1 · ▸ hn'), h.maps⟩
    · rw [addCore_migrate hm hl]
      -- a migrated entry is a live list slot
      exact ⟨h.list, fun e he => ((mem_mapsInsert ..).1 he).elim
        (fun he => h.bounds (e.2, e.1) ((stored_list hm _).2 ((mem_migrate ..).1 he))) (· ▸ ⟨hn, hn'⟩)⟩
  · rw [addCore_maps hm]
    exact ⟨h.list, fun e he => ((mem_mapsInsert ..).1 he).elim (h.maps e) (· ▸ ⟨hn, hn'⟩)⟩

theorem wf_removeCore (h : WF s) : WF (removeCore s a n) := by
  cases hm : s.mapsMode
  · rw [removeCore_list hm]
    refine ⟨fun e he => ?_, h.maps⟩
    obtain ⟨e', he', rfl⟩ := List.mem_map.1 he
    split
    · exact Nat.zero_le _
    · exact h.list e' he'
  · rw [removeCore_maps hm]
    exact ⟨h.list, fun e he => h.maps e (List.mem_filter.1 he).1⟩

theorem scan_iff (h : WF s) (ip : Addr) :
    scan s ip = true ↔ ∃ e, Stored s e ∧ ip &&& prefixMask e.2 = e.1 := by
  unfold scan
  cases hm : s.mapsMode
  · simp only [Bool.not_false, if_true, List.any_eq_true, Bool.and_eq_true, decide_eq_true_eq, beq_iff_eq,
      stored_list hm, and_assoc]
    exact exists_congr fun e => and_congr_right fun he => and_congr_right fun hp => by
      rw [maskOf_eq _ hp (h.list e he)]
  · simp only [Bool.not_true, Bool.false_eq_true, if_false, List.any_eq_true, List.mem_range,
      List.contains_iff_mem, stored_maps hm]
    constructor
    · rintro ⟨i, hi, hc⟩
      exact ⟨(_, i + 1), hc, by rw [maskOf_eq _ (Nat.le_add_left ..) hi]⟩
    · rintro ⟨e, he, hc⟩
      obtain ⟨h1, h2⟩ := h.maps _ he
      refine ⟨e.2 - 1, by omega, ?_⟩
      rwa [Nat.sub_add_cancel h1, maskOf_eq _ h1 h2, hc]

theorem addCore_matchAll : (addCore ls s a n).matchAll = s.matchAll := by
  simp only [addCore, apply_ite St.matchAll, ite_self]

theorem removeCore_matchAll : (removeCore s a n).matchAll = s.matchAll := by
  simp only [removeCore, apply_ite St.matchAll, ite_self]

end Glb.Filter
