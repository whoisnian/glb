/-
  Helper lemmas for C05: Go slices, `findRoute` only appends to `V` and returns `K` no longer than
  `V` on every trie built by registrations, the per-store pool invariant, the fact that a
  request's observations are a function of the trie and the request alone, and for the
  distinctness of request ids: `render36` can be read back (`render36_val`), and the ids still to
  be handed out (`Later`) are pairwise different under any injective rendering.
-/
import Glb.Model.Store
import Glb.Proofs.RouterMain

namespace Glb.Store
open Glb Glb.Router

namespace GoSlice
variable {α : Type}

def WF (s : GoSlice α) : Prop := s.len ≤ s.cap

theorem elems_length {s : GoSlice α} (h : s.WF) : s.elems.length = s.len :=
  List.length_take_of_le h

theorem take_set_succ (l : List α) (n : Nat) (x : α) (h : n < l.length) :
    (l.set n x).take (n + 1) = l.take n ++ [x] := by
  rw [List.take_succ_eq_append_getElem (by rw [List.length_set]; exact h), List.getElem_set_self,
    List.take_set_of_le (Nat.le_refl n)]

/-- `append(s, x)` appends, in place or not -/
theorem push_spec (grow : Nat → Nat) (zero : α) (s : GoSlice α) (x : α) (h : s.WF) :
    (push grow zero s x).elems = s.elems ++ [x] ∧ (push grow zero s x).WF := by
  have hl : (s.elems ++ [x]).length = s.len + 1 := by rw [List.length_append, elems_length h]; rfl
  unfold push
  split
  · next hc =>
    exact ⟨take_set_succ _ _ _ hc, by show s.len + 1 ≤ (s.arr.set s.len x).length; rw [List.length_set]; exact hc⟩
  · exact ⟨List.take_left' hl, by show s.len + 1 ≤ (s.elems ++ [x] ++ _).length; rw [List.length_append, hl]; omega⟩

theorem pushAll_spec (grow : Nat → Nat) (zero : α) (xs : List α) : ∀ (s : GoSlice α), s.WF →
    (pushAll grow zero s xs).elems = s.elems ++ xs ∧ (pushAll grow zero s xs).WF := by
  induction xs with
  | nil => intro s h; exact ⟨(List.append_nil _).symm, h⟩
  | cons x xs ih =>
    intro s h
    obtain ⟨he, hw⟩ := push_spec grow zero s x h
    obtain ⟨h1, h2⟩ := ih _ hw
    exact ⟨by rw [List.append_cons, ← he]; exact h1, h2⟩

/-- `s[:n]` within the length keeps the first `n` elements -/
theorem reslice_spec {s : GoSlice α} {n : Nat} (h : s.WF) (hn : n ≤ s.len) :
    s.reslice? n = .ok ⟨s.arr, n⟩ ∧ (⟨s.arr, n⟩ : GoSlice α).elems = s.elems.take n :=
  ⟨if_pos (Nat.le_trans hn h), by show s.arr.take n = (s.arr.take s.len).take n; rw [List.take_take, Nat.min_eq_left hn]⟩

end GoSlice

theorem walkT_extends (node : Node) (segs : List (Bytes × Bytes)) (V : List Bytes) :
    V <+: (walkT node segs V).2 := by
  fun_induction walkT node segs V with
  | case1 => exact List.prefix_rfl
  | case2 _ _ _ _ _ _ _ ih => exact ih
  | case3 _ _ _ _ _ _ _ _ ih => exact (List.prefix_append _ _).trans ih
  | case4 => exact List.prefix_append _ _
  | case5 => exact List.prefix_rfl

theorem captures_cons (k : Bytes) (ks : List Bytes) :
    captures (k :: ks) = captures ks + (if k = Generated.routeParam ∨ k = Generated.routeParamAny then 1 else 0) := by
  simp [captures, List.countP_cons]

/-- on ANY trie: the walk ends at the node below `node` at some keys `ks`, and it has captured one
    value for each of the two reserved keys among them -/
theorem walkT_descend (node : Node) (segs : List (Bytes × Bytes)) (V : List Bytes)
    (hsf : ∀ sg ∈ segs, (47 : UInt8) ∉ sg.1) {n' : Node} (hw : (walkT node segs V).1 = some n') :
    ∃ ks, descend node ks = some n' ∧ (walkT node segs V).2.length = V.length + captures ks := by
  fun_induction walkT node segs V with
  | case1 => exact ⟨[], hw, rfl⟩
  | case2 node seg rest more V res hc ih =>
    obtain ⟨ks, hd, hl⟩ := ih (fun sg hs => hsf sg (List.mem_cons_of_mem _ hs)) hw
    exact ⟨seg :: ks, by rw [descend_cons, hc]; exact hd,
      by rw [hl, captures_cons, if_neg (not_or.mpr (slashfree_ne_reserved (hsf (seg, rest) List.mem_cons_self)))]; rfl⟩
  | case3 node seg rest more V _ res hc ih =>
    obtain ⟨ks, hd, hl⟩ := ih (fun sg hs => hsf sg (List.mem_cons_of_mem _ hs)) hw
    exact ⟨Generated.routeParam :: ks, by rw [descend_cons, hc]; exact hd,
      by rw [hl, captures_cons, if_pos (.inl rfl), List.length_append]; exact Nat.add_right_comm _ _ _⟩
  | case4 node seg rest more V _ _ res hc =>
    exact ⟨[Generated.routeParamAny], by rw [descend_cons, hc]; exact hw,
      by rw [captures_cons, if_pos (.inr rfl)]; exact List.length_append⟩
  | case5 => cases hw

/-- the `paramNameList` of a method node is as long as the number of values captured on the way to it -/
theorem methodNode_params {S P t} (h : TInv S P t) {ks V : List Bytes} {n nn : Node}
    (hd : descend t ks = some n) (hV : V.length = captures ks) {m : Bytes} (hm : methodNodeOrNil n m = some nn) :
    nn.params.length = V.length := by
  have hs := h.methodNode_sel hd m
  cases hsel : selAny S ks m with
  | none => rw [hsel, hm] at hs; cases hs
  | some e =>
    rw [hsel, hm] at hs
    obtain ⟨_, hn, hp⟩ := hs
    cases hn
    rw [show nn.params = namesOf _ from congrArg Prod.snd hp, namesOf, List.length_map]
    exact (selAny_some hV hsel).2.2

theorem findRoute_V_extends (t : Node) (path method : Bytes) (ps : Params) (info : Option RouteId) (ps' : Params)
    (hf : findRoute t path method ps = .ok (info, ps')) : ∃ suf, ps'.V = ps.V ++ suf := by
  obtain ⟨segs, _, h⟩ := findRoute_walk t path method ps
  rw [hf] at h
  obtain ⟨suf, hs⟩ := walkT_extends t segs ps.V
  exact ⟨suf, by rw [hs, ← finishWalk_V ps method, ← Except.ok.inj h]⟩

theorem findRoute_lengths {S P t} (h : TInv S P t) (path method : Bytes) (info : Option RouteId) (ps : Params)
    (hf : findRoute t path method {} = .ok (info, ps)) : ps.K.length ≤ ps.V.length := by
  obtain ⟨segs, hsf, hr⟩ := findRoute_walk t path method {}
  rw [hf] at hr
  cases hw : walkT t segs [] with
  | mk on V =>
    rw [show walkT t segs ({} : Params).V = (on, V) from hw] at hr
    cases on with
    | none => cases hr; exact Nat.zero_le _
    | some n =>
      obtain ⟨ks, hd, hV⟩ := walkT_descend t segs [] hsf (n' := n) (by rw [hw])
      rw [hw, List.length_nil, Nat.zero_add] at hV
      simp only [finishWalk] at hr
      cases hm : methodNodeOrNil n method with
      | none => rw [hm] at hr; cases hr; exact Nat.zero_le _
      | some nn => rw [hm] at hr; cases hr; exact Nat.le_of_eq (methodNode_params h hd hV hm)

theorem firstIdx_lt {key : Bytes} {K : List Bytes} {i : Nat} (h : firstIdx key K = some i) : i < K.length := by
  fun_induction firstIdx key K generalizing i with
  | case1 => cases h
  | case2 => cases h; exact Nat.zero_lt_succ _
  | case3 k r _ ih =>
    obtain ⟨j, hj, rfl⟩ := Option.map_eq_some_iff.1 h
    exact Nat.succ_lt_succ (ih hj)

/-- with at least as many values as names `Params.Get` cannot panic: it is the plain lookup -/
theorem paramsGet_eq {K V : List Bytes} (h : K.length ≤ V.length) (key : Bytes) :
    paramsGet ⟨K, V⟩ key = .ok ((firstIdx key K).bind (V[·]?)) := by
  unfold paramsGet
  cases hf : firstIdx key K with
  | none => rfl
  | some i =>
    have hv : i < V.length := Nat.lt_of_lt_of_le (firstIdx_lt hf) h
    simp only [idx?, List.getElem?_eq_getElem hv, Option.bind_some]
    rfl

theorem paramsGet_ok (K V : List Bytes) (h : K.length ≤ V.length) (key : Bytes) :
    ∃ r, paramsGet ⟨K, V⟩ key = .ok r :=
  ⟨_, paramsGet_eq h key⟩

def observeRaw (tgt : Option Target) (K V : List Bytes) (status : Nat) (idb : Bytes) (names : List Bytes) :
    Except GoPanic Obs := do
  let tgt ← match tgt with
    | some t => (.ok t : Except GoPanic Target)
    | none => .error (.other "nil RouteInfo")
  let ps : Params := ⟨K, V⟩
  let gets ← names.mapM fun n => do
    let v ← paramsGet ps n
    pure (v.getD [])
  let any ← paramsGet ps Generated.routeParamAny
  pure ⟨tgt, gets, any.getD [], status, idb⟩

theorem observe_eq (st : StoreSt) (names : List Bytes) :
    observe st names = observeRaw st.target st.K st.V.elems st.status st.id.elems names := rfl

theorem observeRaw_ok (t : Target) {K V : List Bytes} (h : K.length ≤ V.length) (names : List Bytes) :
    ∃ gets any, ∀ status idb, observeRaw (some t) K V status idb names = .ok ⟨t, gets, any, status, idb⟩ := by
  refine ⟨names.map fun n => ((firstIdx n K).bind (V[·]?)).getD [],
    ((firstIdx Generated.routeParamAny K).bind (V[·]?)).getD [], fun status idb => ?_⟩
  unfold observeRaw
  simp only [paramsGet_eq h, bind, Except.bind]
  rw [List.mapM_pure]
  rfl

/-- what the handlers of a request observe, as a function of the trie, the request, the probed
    names and the id bytes — no Store, no pool, no history -/
def obsPure (root : Node) (req : Req) (names : List Bytes) (idb : Bytes) : Except GoPanic Obs :=
  match findRoute root req.path req.method {} with
  | .error e => .error e
  | .ok (info, ps) => observeRaw (some (targetOf info)) ps.K ps.V 0 idb names

/-- on a trie built by registrations nothing panics, the status observed is 0, and the id bytes
    show up as the id and nowhere else -/
theorem obsPure_split {root : Node} (h : ∃ S P, TInv S P root) (req : Req) (names : List Bytes) :
    ∃ o : Obs, o.status = 0 ∧ ∀ idb, obsPure root req names idb = .ok { o with id := idb } := by
  obtain ⟨S, P, h⟩ := h
  obtain ⟨⟨info, ps⟩, hf⟩ := findRoute_ok root req.path req.method {}
  obtain ⟨gets, any, ho⟩ := observeRaw_ok (targetOf info) (findRoute_lengths h _ _ _ _ hf) names
  refine ⟨⟨targetOf info, gets, any, 0, []⟩, rfl, fun idb => ?_⟩
  unfold obsPure
  rw [hf]
  exact ho 0 idb

/-- two observations of one request on one trie differ in the id only -/
theorem obsPure_congr {root : Node} (h : ∃ S P, TInv S P root) {req : Req} {names : List Bytes} {idb idb' : Bytes} {o o' : Obs}
    (ho : obsPure root req names idb = .ok o) (ho' : obsPure root req names idb' = .ok o') :
    ∃ ob : Obs, ob.status = 0 ∧ o = { ob with id := idb } ∧ o' = { ob with id := idb' } := by
  obtain ⟨ob, hst, hob⟩ := obsPure_split h req names
  exact ⟨ob, hst, Except.ok.inj (ho.symm.trans (hob idb)), Except.ok.inj (ho'.symm.trans (hob idb'))⟩

/-- a Store at rest (pooled or new): nothing of an earlier request is observable -/
structure StoreInv (pfx : Bytes) (st : StoreSt) : Prop where
  hK : st.K = []
  hVlen : st.V.len = 0
  hstatus : st.status = 0
  htarget : st.target = none
  hidlen : st.id.len = 9
  hidwf : st.id.WF
  hidpfx : st.id.elems = pfx

structure MuxInv (mux : MuxSt) : Prop where
  pfx9 : mux.pfx.length = 9
  trie : ∃ S P, TInv S P mux.root
  pool : ∀ st ∈ mux.pool, StoreInv mux.pfx st

theorem newStore_inv (mux : MuxSt) (h : mux.pfx.length = 9) : StoreInv mux.pfx (newStore mux) := by
  have ht : mux.pfx.take 9 = mux.pfx := List.take_of_length_le (Nat.le_of_eq h)
  refine ⟨rfl, rfl, rfl, rfl, rfl, ?_, ?_⟩
  · show 9 ≤ (mux.pfx.take 9 ++ List.replicate _ 0).length
    rw [ht, List.length_append, h]
    exact Nat.le_add_right _ _
  · show List.take 9 (mux.pfx.take 9 ++ List.replicate _ 0) = mux.pfx
    rw [ht]
    exact List.take_left' h

theorem getStore_inv {mux : MuxSt} (h : MuxInv mux) (choice : Option Nat) :
    StoreInv mux.pfx (getStore mux choice).1 ∧ ∀ st ∈ (getStore mux choice).2, StoreInv mux.pfx st := by
  unfold getStore
  cases choice with
  | none => exact ⟨newStore_inv mux h.pfx9, h.pool⟩
  | some i =>
    cases hi : mux.pool[i]? with
    | none => simp only [hi]; exact ⟨newStore_inv mux h.pfx9, h.pool⟩
    | some st =>
      simp only [hi]
      exact ⟨h.pool st (List.mem_of_getElem? hi), fun st' hs => h.pool st' (List.mem_of_mem_eraseIdx hs)⟩

/-- the id after `AppendUint`: still the prefix first, and it can be resliced to it -/
theorem StoreInv.id_push {pfx : Bytes} {st : StoreSt} (h : StoreInv pfx st) (hp : pfx.length = 9)
    (grow : Nat → Nat) (c : Bytes) :
    (GoSlice.pushAll grow 0 st.id c).WF ∧ 9 ≤ (GoSlice.pushAll grow 0 st.id c).len ∧
    (GoSlice.pushAll grow 0 st.id c).elems.take 9 = pfx := by
  obtain ⟨he, hw⟩ := GoSlice.pushAll_spec grow 0 c st.id h.hidwf
  rw [h.hidpfx] at he
  refine ⟨hw, ?_, by rw [he]; exact List.take_left' hp⟩
  rw [← GoSlice.elems_length hw, he, List.length_append, hp]
  exact Nat.le_add_right _ _

/-- the first half of `ServeHTTP`, on whatever Store at rest and whatever its backing arrays still
    hold: `findRoute` starts from empty `Params` and succeeds, and once its outcome and the id are
    written into the Store the handlers observe `obsPure` -/
theorem StoreInv.route {pfx : Bytes} {st : StoreSt} (h : StoreInv pfx st) {root : Node} (hT : ∃ S P, TInv S P root)
    (grow : Nat → Nat) (c : Bytes) (req : Req) (names : List Bytes) :
    ∃ info ps o, findRoute root req.path req.method ⟨st.K, st.V.elems⟩ = .ok (info, ps) ∧
      observe { K := ps.K, V := GoSlice.pushAll grow [] st.V (ps.V.drop st.V.len), status := st.status,
                target := some (targetOf info), id := GoSlice.pushAll grow 0 st.id c } names = .ok o ∧
      obsPure root req names (pfx ++ c) = .ok o := by
  have hV : st.V.WF := by show st.V.len ≤ _; rw [h.hVlen]; exact Nat.zero_le _
  have hV0 : st.V.elems = [] := by rw [GoSlice.elems, h.hVlen]; rfl
  obtain ⟨⟨info, ps⟩, hf⟩ := findRoute_ok root req.path req.method {}
  obtain ⟨o, _, ho⟩ := obsPure_split hT req names
  refine ⟨info, ps, _, by rw [h.hK, hV0]; exact hf, ?_, ho _⟩
  rw [← ho, obsPure, hf, observe_eq]
  show observeRaw _ ps.K (GoSlice.pushAll grow [] st.V (ps.V.drop st.V.len)).elems st.status
    (GoSlice.pushAll grow 0 st.id c).elems names = _
  rw [(GoSlice.pushAll_spec grow [] _ st.V hV).1, (GoSlice.pushAll_spec grow 0 c st.id h.hidwf).1, hV0, h.hVlen,
    h.hstatus, h.hidpfx]
  rfl

/-- the reset before `Put`: `id[:9]` succeeds and the Store is at rest again -/
theorem reset_inv {pfx : Bytes} {id : GoSlice UInt8} (hwf : id.WF) (h9 : 9 ≤ id.len) (hp : id.elems.take 9 = pfx)
    (arr : List Bytes) :
    id.reslice? 9 = .ok ⟨id.arr, 9⟩ ∧
    StoreInv pfx { K := [], V := ⟨arr, 0⟩, status := 0, target := none, id := ⟨id.arr, 9⟩ } := by
  obtain ⟨hr, he⟩ := GoSlice.reslice_spec hwf h9
  exact ⟨hr, rfl, rfl, rfl, rfl, rfl, Nat.le_trans h9 hwf, he.trans hp⟩

/-- One request: what is observed is `obsPure` of the trie, the request and `prefix ++ counter`,
    whatever Store the pool hands out; the invariant is kept; the counter moves by one. -/
theorem serve_spec (grow : Nat → Nat) (render : Nat → Bytes) {mux : MuxSt} (h : MuxInv mux)
    (req : Req) (names : List Bytes) (beh : Behaviour) (choice : Option Nat) :
    ∃ o, obsPure mux.root req names (mux.pfx ++ render (mux.counter + 1)) = .ok o ∧
      (serve grow render mux req names beh choice).2 = .ok [o, o] ∧
      MuxInv (serve grow render mux req names beh choice).1 ∧
      (serve grow render mux req names beh choice).1.counter = mux.counter + 1 ∧
      (serve grow render mux req names beh choice).1.root = mux.root ∧
      (serve grow render mux req names beh choice).1.pfx = mux.pfx ∧
      (serve grow render mux req names beh choice).1.nextId = mux.nextId := by
  obtain ⟨hst, hpool⟩ := getStore_inv h choice
  unfold serve
  generalize getStore mux choice = g at hst hpool
  obtain ⟨st0, pool'⟩ := g
  obtain ⟨info, ps, o, hf, hobs, ho⟩ := hst.route h.trie grow (render (mux.counter + 1)) req names
  obtain ⟨hwf, h9, hpfx⟩ := hst.id_push h.pfx9 grow (render (mux.counter + 1))
  refine ⟨o, ho, ?_⟩
  simp only [hf, hobs]
  cases beh.panics with
  | true => exact ⟨rfl, ⟨h.pfx9, h.trie, hpool⟩, rfl, rfl, rfl, rfl⟩
  | false =>
    obtain ⟨hr, hrest⟩ := reset_inv hwf h9 hpfx (GoSlice.pushAll grow [] st0.V (ps.V.drop st0.V.len)).arr
    simp only [Bool.false_eq_true, if_false, hr]
    exact ⟨trivial, ⟨h.pfx9, h.trie, List.forall_mem_cons.mpr ⟨hrest, hpool⟩⟩, trivial, trivial, trivial, trivial⟩

theorem handle_inv {mux : MuxSt} (h : MuxInv mux) (p m : Bytes) :
    ∃ mux' res, handle mux p m = .ok (mux', res) ∧ MuxInv mux' ∧ mux'.counter = mux.counter ∧ mux'.pfx = mux.pfx := by
  obtain ⟨S, P, hT⟩ := h.trie
  obtain ⟨t', hp, hinv⟩ := parseRoute_spec hT p m mux.nextId
  unfold handle
  rw [hp]
  cases hr : regResult S ⟨slashed p, m⟩ with
  | error e =>
    rw [hr] at hinv
    obtain ⟨P', hinv⟩ := hinv
    exact ⟨_, _, rfl, ⟨h.pfx9, ⟨S, P', hinv⟩, h.pool⟩, rfl, rfl⟩
  | ok n =>
    rw [hr] at hinv
    exact ⟨_, _, rfl, ⟨h.pfx9, ⟨_, P, hinv⟩, h.pool⟩, rfl, rfl⟩

theorem fresh_inv (pfx : Bytes) (h : pfx.length = 9) : MuxInv (fresh pfx) :=
  ⟨h, ⟨[], [], tinv_empty⟩, by simp [fresh]⟩

/-- the trie depends on the registrations only, the prefix on nothing, and the request counter
    counts the requests (also those whose handler panics) -/
theorem step_inv (grow : Nat → Nat) (render : Nat → Bytes) {mux : MuxSt} (h : MuxInv mux) (op : Op) :
    MuxInv (step grow render mux op) ∧ (step grow render mux op).pfx = mux.pfx ∧
    (step grow render mux op).counter = mux.counter + (match op with
      | .request .. => 1
      | _ => 0) := by
  cases op with
  | handle p m =>
    obtain ⟨mux', res, hh, hinv, hc, hpfx⟩ := handle_inv h p m
    simp only [step, hh]
    exact ⟨hinv, hpfx, hc⟩
  | request req names beh choice =>
    obtain ⟨o, _, _, hinv, hc, _, hpfx, _⟩ := serve_spec grow render h req names beh choice
    exact ⟨hinv, hpfx, hc⟩
  | drop i =>
    exact ⟨⟨h.pfx9, h.trie, fun st hs => h.pool st (List.mem_of_mem_eraseIdx hs)⟩, rfl, rfl⟩

/-- along any history the invariant and the prefix are kept; registrations alone leave the counter
    where it stands -/
theorem run_inv (grow : Nat → Nat) (render : Nat → Bytes) (ops : List Op) : ∀ {mux : MuxSt}, MuxInv mux →
    MuxInv (run grow render mux ops) ∧ (run grow render mux ops).pfx = mux.pfx ∧
    ((∀ op ∈ ops, op.isHandle = true) → (run grow render mux ops).counter = mux.counter) := by
  induction ops with
  | nil => intro mux h; exact ⟨h, rfl, fun _ => rfl⟩
  | cons op ops ih =>
    intro mux h
    obtain ⟨h1, h2, hc⟩ := step_inv grow render h op
    obtain ⟨h3, h4, h5⟩ := ih h1
    refine ⟨h3, h4.trans h2, fun hops => (h5 fun o ho => hops o (List.mem_cons_of_mem _ ho)).trans ?_⟩
    cases op with
    | handle p m => exact hc
    | request req names beh choice => exact absurd (hops _ List.mem_cons_self) Bool.false_ne_true
    | drop i => exact absurd (hops _ List.mem_cons_self) Bool.false_ne_true

/-- `Handle` looks at the trie and the next route id only -/
theorem step_handle_congr (grow grow' : Nat → Nat) (render render' : Nat → Bytes) {m1 m2 : MuxSt} (p m : Bytes)
    (hr : m1.root = m2.root) (hn : m1.nextId = m2.nextId) :
    (step grow render m1 (.handle p m)).root = (step grow' render' m2 (.handle p m)).root ∧
    (step grow render m1 (.handle p m)).nextId = (step grow' render' m2 (.handle p m)).nextId := by
  simp only [step, handle, hr, hn]
  cases parseRoute m2.root p m m2.nextId with
  | error e => exact ⟨hr, hn⟩
  | ok r =>
    obtain ⟨root', res⟩ := r
    cases res <;> exact ⟨rfl, rfl⟩

/-- the trie (and the id given to the next registration) depends on the registrations only -/
theorem run_root (grow grow' : Nat → Nat) (render : Nat → Bytes) (ops : List Op) :
    ∀ {mux mux' : MuxSt}, MuxInv mux → MuxInv mux' → mux.root = mux'.root → mux.nextId = mux'.nextId →
    (run grow render mux ops).root = (run grow' render mux' (ops.filter Op.isHandle)).root ∧
    (run grow render mux ops).nextId = (run grow' render mux' (ops.filter Op.isHandle)).nextId := by
  induction ops with
  | nil => intro mux mux' _ _ h1 h2; exact ⟨h1, h2⟩
  | cons op ops ih =>
    intro mux mux' hI hI' h1 h2
    have hs := (step_inv grow render hI op).1
    cases op with
    | handle p m =>
      obtain ⟨h1', h2'⟩ := step_handle_congr grow grow' render render p m h1 h2
      exact ih hs (step_inv grow' render hI' (.handle p m)).1 h1' h2'
    | request req names beh choice =>
      obtain ⟨o, _, _, _, _, hroot, _, hnext⟩ := serve_spec grow render hI req names beh choice
      exact ih hs hI' (hroot.trans h1) (hnext.trans h2)
    | drop i => exact ih hs hI' h1 h2

def ofLE : List Nat → Nat
  | [] => 0
  | d :: r => d + 36 * ofLE r

theorem ofLE_digitsLE (fuel : Nat) : ∀ n, n < fuel → ofLE (digitsLE fuel n) = n := by
  induction fuel with
  | zero => intro n h; cases h
  | succ fuel ih =>
    intro n h
    unfold digitsLE
    split
    · exact Nat.add_zero n
    · next hn =>
      have hpos : 0 < n := Nat.lt_of_lt_of_le (by decide) (Nat.le_of_not_lt hn)
      show n % 36 + 36 * ofLE (digitsLE fuel (n / 36)) = n
      rw [ih (n / 36) (Nat.lt_of_lt_of_le (Nat.div_lt_self hpos (by decide)) (Nat.le_of_lt_succ h))]
      exact Nat.mod_add_div n 36

theorem digitsLE_lt (fuel : Nat) : ∀ n, ∀ d ∈ digitsLE fuel n, d < 36 := by
  induction fuel with
  | zero => intro n d h; cases h
  | succ fuel ih =>
    intro n d h
    unfold digitsLE at h
    split at h
    · next hn => exact List.mem_singleton.mp h ▸ hn
    · rcases List.mem_cons.mp h with rfl | h
      · exact Nat.mod_lt n (by decide)
      · exact ih _ d h

/-- reads a digit character `0-9a-z` back -/
def digitVal (b : UInt8) : Nat := if b.toNat < 58 then b.toNat - 48 else b.toNat - 87

theorem digitVal_digitChar {d : Nat} (h : d < 36) : digitVal (digitChar d) = d := by
  unfold digitVal digitChar
  split
  · next hd =>
    rw [UInt8.toNat_ofNat', Nat.mod_eq_of_lt (by omega), if_pos (Nat.add_lt_add_left hd 48), Nat.add_sub_cancel_left]
  · rw [UInt8.toNat_ofNat', Nat.mod_eq_of_lt (by omega), if_neg (by omega), Nat.add_sub_cancel_left]

/-- `render36` can be parsed back -/
theorem render36_val (n : Nat) : ofLE ((render36 n).map digitVal).reverse = n := by
  rw [render36, List.map_map, List.map_congr_left (f := digitVal ∘ digitChar) (g := id) fun d hd =>
    digitVal_digitChar (digitsLE_lt _ _ d (List.mem_reverse.mp hd)), List.map_id, List.reverse_reverse]
  exact ofLE_digitsLE (n + 1) n (Nat.lt_succ_self n)

/-- ids a Mux whose counter stands at `c` can still hand out, none twice -/
def Later (render : Nat → Bytes) (pfx : Bytes) (c : Nat) (ids : List Bytes) : Prop :=
  ids.Nodup ∧ ∀ id ∈ ids, ∃ n, c < n ∧ id = pfx ++ render n

theorem Later.next {render : Nat → Bytes} {pfx : Bytes} {c : Nat} {ids : List Bytes}
    (hinj : ∀ a b, render a = render b → a = b) (h : Later render pfx (c + 1) ids) :
    Later render pfx c ((pfx ++ render (c + 1)) :: ids) := by
  refine ⟨List.nodup_cons.mpr ⟨fun hm => ?_, h.1⟩,
    List.forall_mem_cons.mpr ⟨⟨c + 1, Nat.lt_succ_self c, rfl⟩, fun id hid => ?_⟩⟩
  · obtain ⟨n, hn, he⟩ := h.2 _ hm
    exact Nat.lt_irrefl n (hinj _ _ (List.append_cancel_left he) ▸ hn)
  · obtain ⟨n, hn, he⟩ := h.2 id hid
    exact ⟨n, Nat.lt_of_succ_lt hn, he⟩

end Glb.Store
