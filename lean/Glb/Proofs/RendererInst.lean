/-
  Glb.Proofs.RendererInst — the three byte-exact handler models (JsonHandler / TextHandler /
  NanoHandler) as instances of C03's abstract `Derive.Renderer`, and the lemmas behind the
  handler-boundary laws of Props/C03b.lean.

  For each model `M`:
    * rendering is parametric in the buffer (`…_buf` / `jLoop_eq`: what is appended does not depend
      on what is already there);
    * `M.handle = header ++ pre ++ (record attributes in the handler's shape) ++ closers`
      (`…_handle_eq`), where `header` does not read the attributes;
    * `XSound R`: what it means for an abstract `Renderer` to render like `M`, whatever its chunking
      (the real code appends a rendering piecewise; any chunking with the same concatenation is
      sound); `jsonR`, `textR`, `nanoR` are the one-chunk instances (sound: `C03b.json_renderer_instance` and its twins);
    * `…_pureStep`: one `WithAttrs` / `WithGroup` of `M` is one `Derive.pureStep` on the view, hence
      (`…_renderChain`) the alias-free reference `Derive.renderChain` of C03 *is* the pure model
      state `M.deriveAll init chain`; `…_lineOf`: C03's `lineOf` *is* `M.handle`.  Through these two
      the laws C03 proves about `pureStep` / `lineOf` hold of `M`.
-/
import Glb.Model.NanoHandler
import Glb.Model.JsonHandler
import Glb.Proofs.TextHandler
import Glb.Proofs.DeriveSlices

namespace Glb.RendererInst
open Glb Glb.Derive

theorem foldl_pureStep {α σ ο} (R : Renderer α) (view : σ → PView) (op : DOp α → ο) (step : σ → ο → σ)
    (h1 : ∀ s o, pureStep R (view s) o = view (step s (op o))) (chain : List (DOp α)) (s : σ) :
    chain.foldl (pureStep R) (view s) = view ((chain.map op).foldl step s) := by
  induction chain generalizing s with
  | nil => rfl
  | cons o rest ih => simp only [List.foldl_cons, List.map_cons, h1, ih]

section Json
open JsonHandler

/-- bytes the attribute loop appends, started with separator flag `sep` -/
def jBytes (as : List Attr) (sep : Bool) : Bytes := (attrLoop [] as sep false).1
/-- separator flag after the loop -/
def jSep (as : List Attr) (sep : Bool) : Bool := (attrLoop [] as sep false).2.1
/-- "wrote a member" -/
def jWrote (as : List Attr) (sep : Bool) : Bool := (attrLoop [] as sep false).2.2

mutual
theorem jAttr_eq (a : Attr) (buf : Bytes) (sep : Bool) :
    appendJsonAttr buf a sep = (buf ++ (appendJsonAttr [] a sep).1, (appendJsonAttr [] a sep).2) := by
  match a with
  | .leaf k v => cases sep <;> simp [appendJsonAttr]
  | .group k as =>
    have e (b : Bytes) (s : Bool) := jLoop_eq as b s false
    simp only [appendJsonAttr, e]
    split <;> cases sep <;> simp
theorem jLoop_eq (as : List Attr) (buf : Bytes) (sep w : Bool) :
    attrLoop buf as sep w = (buf ++ jBytes as sep, jSep as sep, w || jWrote as sep) := by
  match as with
  | [] => simp [attrLoop, jBytes, jSep, jWrote]
  | a :: as =>
    have e (b : Bytes) (s w : Bool) := jLoop_eq as b s w
    unfold jBytes jSep jWrote
    rw [attrLoop, attrLoop, jAttr_eq a buf sep]
    cases (appendJsonAttr [] a sep).2 <;> simp [e]
end

theorem jBytes_nil (sep : Bool) : jBytes [] sep = [] := rfl
theorem jSep_nil (sep : Bool) : jSep [] sep = sep := rfl

theorem jLoop_cons (a : Attr) (as : List Attr) (sep : Bool) :
    jBytes (a :: as) sep = (appendJsonAttr [] a sep).1 ++ jBytes as (sep || (appendJsonAttr [] a sep).2) ∧
    jSep (a :: as) sep = jSep as (sep || (appendJsonAttr [] a sep).2) := by
  unfold jBytes jSep
  rw [attrLoop]
  cases (appendJsonAttr [] a sep).2 <;> simp [jLoop_eq]

/-- `Handle` up to and including `"msg":"…"` (does not read the attributes) -/
def jsonHeader (addSource : Bool) (r : Rec) : Except GoPanic Bytes := do
  let lvl ← fullLevel r.level
  let buf : Bytes := 0x7B :: 0x22 :: kTime ++ [0x22, 0x3A, 0x22] ++ r.time
  let buf := buf ++ [0x22, 0x2C, 0x22] ++ kLevel ++ [0x22, 0x3A, 0x22] ++ lvl ++ [0x22]
  let buf := if addSource then
      buf ++ [0x2C, 0x22] ++ kSource ++ [0x22, 0x3A, 0x7B] ++ appendJsonSource r.file r.line ++ [0x7D]
    else buf
  return buf ++ [0x2C, 0x22] ++ kMsg ++ [0x22, 0x3A, 0x22] ++ appendJsonString r.msg ++ [0x22]

def jsonTail (h : H) (attrs : List Attr) : Bytes :=
  h.pre ++ jBytes attrs h.addSep ++ (List.replicate h.nOpenGroups 0x7D ++ [0x7D, 0x0A])

theorem json_handle_eq (addSource : Bool) (h : H) (r : Rec) :
    handle addSource h r = (jsonHeader addSource r).map (fun hd => hd ++ jsonTail h r.attrs) := by
  unfold handle jsonHeader jsonTail
  cases fullLevel r.level with
  | error e => rfl
  | ok lvl =>
    dsimp only [bind, Except.bind, pure, Except.pure, Except.map]
    -- regroup `hd ++ pre ++ attrs ++ closers ++ "}\n"` as `hd ++ (pre ++ attrs ++ (closers ++ "}\n"))`
    rw [jLoop_eq, List.append_assoc, List.append_assoc (_ ++ h.pre), List.append_assoc _ h.pre,
      List.append_assoc h.pre]

theorem jsonHeader_attrs (addSource : Bool) (r : Rec) (as : List Attr) :
    jsonHeader addSource { r with attrs := as } = jsonHeader addSource r := rfl

theorem json_withAttrs_eq (h : H) (as : List Attr) :
    withAttrs h as = { h with pre := h.pre ++ jBytes as h.addSep, addSep := jSep as h.addSep } := by
  simp [withAttrs, jLoop_eq]

/-- the chunk `JsonHandler.WithGroup` appends -/
def jsonGroupOpen (sep : Bool) (name : Bytes) : Bytes :=
  (if sep then [0x2C, 0x22] else [0x22]) ++ appendJsonString name ++ [0x22, 0x3A, 0x7B]

theorem json_withGroup_eq (h : H) (g : Bytes) :
    withGroup h g = { pre := h.pre ++ jsonGroupOpen h.addSep g, nOpenGroups := h.nOpenGroups + 1,
                      addSep := false } := by
  cases hs : h.addSep <;> simp [withGroup, jsonGroupOpen, hs]

theorem jBytes_group (g : Bytes) (as : List Attr) (sep : Bool) (hg : g ≠ []) :
    jBytes [.group g as] sep = jsonGroupOpen sep g ++ jBytes as false ++ [0x7D] ∧
    jSep [.group g as] sep = true := by
  cases sep <;>
    simp [jLoop_cons, jBytes_nil, jSep_nil, appendJsonAttr, hg, jsonGroupOpen, jLoop_eq]

mutual
/-- attributes that render to nothing in JSON: an inline group (empty key) all of whose members are
  hollow; in particular `Group("")` -/
def hollow : Attr → Bool
  | .leaf _ _ => false
  | .group k as => k.isEmpty && hollowL as
def hollowL : List Attr → Bool
  | [] => true
  | a :: as => hollow a && hollowL as
end

mutual
theorem hollow_attr : ∀ (a : Attr), hollow a = true → ∀ (buf : Bytes) (sep : Bool),
    appendJsonAttr buf a sep = (buf, false)
  | .leaf _ _, h, _, _ => by simp [hollow] at h
  | .group k as, h, buf, sep => by
    simp only [hollow, Bool.and_eq_true] at h
    have := hollow_loop as h.2 buf sep false
    simp [appendJsonAttr, h.1, this]
theorem hollow_loop : ∀ (as : List Attr), hollowL as = true → ∀ (buf : Bytes) (sep w : Bool),
    attrLoop buf as sep w = (buf, sep, w)
  | [], _, _, _, _ => by simp [attrLoop]
  | a :: as, h, buf, sep, w => by
    simp only [hollowL, Bool.and_eq_true] at h
    rw [attrLoop, hollow_attr a h.1 buf sep]
    simp only [Bool.false_eq_true, if_false]
    exact hollow_loop as h.2 buf sep w
end

/-- pinned `WithAttrs` on the state `(preformatted, addSep)`: `addSep = true` after every attribute -/
def pinnedWith (st : Bytes × Bool) (as : List Attr) : Bytes × Bool :=
  if as.isEmpty then st else (Pinned.attrLoop st.1 as st.2, true)

theorem pinned_loop_append (as bs : List Attr) : ∀ (buf : Bytes) (sep : Bool),
    Pinned.attrLoop buf (as ++ bs) sep =
      Pinned.attrLoop (Pinned.attrLoop buf as sep) bs (if as.isEmpty then sep else true) := by
  induction as with
  | nil => intro buf sep; simp [Pinned.attrLoop]
  | cons a as ih =>
    intro buf sep
    simp only [List.cons_append, Pinned.attrLoop, ih]
    cases as <;> simp

/-- an abstract renderer renders JSON shapes like the byte-exact model (any chunking) -/
structure JsonSound (R : Renderer Attr) : Prop where
  attr : ∀ (n : Nat) (s : Bool) (a : Attr),
    (R.attr (.json n s) a).1.flatten = (appendJsonAttr [] a s).1 ∧
    (R.attr (.json n s) a).2 = (appendJsonAttr [] a s).2
  group : ∀ (s : Bool) (name : Bytes), (R.groupOpen s name).flatten = jsonGroupOpen s name

def jsonR : Renderer Attr where
  attr := fun sh a =>
    match sh with
    | .json _ s => ([(appendJsonAttr [] a s).1], (appendJsonAttr [] a s).2)
    | _ => ([], false)
  groupOpen := fun s name => [jsonGroupOpen s name]

def jsonView (h : H) : PView := ⟨h.pre, .json h.nOpenGroups h.addSep⟩

def jsonOp : DOp Attr → Deriv
  | .withAttrs as => .attrs as
  | .withGroup g => .group g

theorem json_attrsChunks (R : Renderer Attr) (hR : JsonSound R) (n : Nat) (as : List Attr) :
    ∀ s, (attrsChunks R (.json n s) as).1.flatten = jBytes as s ∧
         (attrsChunks R (.json n s) as).2 = .json n (jSep as s) := by
  induction as with
  | nil => intro s; simp [attrsChunks, jBytes_nil, jSep_nil]
  | cons a as ih =>
    intro s
    obtain ⟨h1, h2⟩ := hR.attr n s a
    obtain ⟨i1, i2⟩ := ih (s || (appendJsonAttr [] a s).2)
    simp only [attrsChunks, Shape.afterAttr, List.flatten_append, h1, h2, i1, i2, jLoop_cons, and_self]

theorem json_pureStep (R : Renderer Attr) (hR : JsonSound R) (h : H) (op : DOp Attr) :
    pureStep R (jsonView h) op = jsonView (JsonHandler.derive h (jsonOp op)) := by
  cases op with
  | withAttrs as =>
    obtain ⟨h1, h2⟩ := json_attrsChunks R hR h.nOpenGroups as h.addSep
    simp [pureStep, jsonView, jsonOp, JsonHandler.derive, json_withAttrs_eq, h1, h2]
  | withGroup g =>
    simp [pureStep, jsonView, jsonOp, JsonHandler.derive, json_withGroup_eq, hR.group]

/-- C03's alias-free reference is the pure JSON model state -/
theorem json_renderChain (R : Renderer Attr) (hR : JsonSound R) (chain : List (DOp Attr)) :
    renderChain R .json chain = jsonView (deriveAll H.init (chain.map jsonOp)) :=
  foldl_pureStep R jsonView jsonOp JsonHandler.derive (json_pureStep R hR) chain H.init

/-- C03's `lineOf` is `JsonHandler.handle` -/
theorem json_lineOf (R : Renderer Attr) (hR : JsonSound R) (addSource : Bool) (h : H) (r : Rec) :
    handle addSource h r = (jsonHeader addSource r).map
      (fun hd => lineOf R (jsonView h).pre (jsonView h).shape hd r.attrs) := by
  rw [json_handle_eq]
  obtain ⟨h1, _⟩ := json_attrsChunks R hR h.nOpenGroups r.attrs h.addSep
  simp [lineOf, jsonView, jsonTail, h1, closers]

end Json

section Text
open TextHandler TextProofs TextExpected

/-- what the attribute loop appends under group prefix `gp` -/
def tBytes (P : Std) (gp : Bytes) (as : List Attr) : Bytes := appendAttrs P [] gp as

/-- `appendAttrs_render` under one component: `dotted [gp]` computes to `gp` -/
theorem appendAttrs_one (P : Std) (gp : Bytes) (as : List Attr) (buf : Bytes) :
    appendAttrs P buf gp as = buf ++ (flatAttrs [gp] as).flatMap (itemBytes P) :=
  appendAttrs_render P [gp] as buf

theorem tLoop_buf (P : Std) (gp : Bytes) (as : List Attr) (buf : Bytes) :
    appendAttrs P buf gp as = buf ++ tBytes P gp as := by
  rw [tBytes, appendAttrs_one, appendAttrs_one P gp as [], List.nil_append]

theorem tAttr_buf (P : Std) (gp : Bytes) (a : Attr) (buf : Bytes) :
    (appendTextAttr P buf gp a).1 = buf ++ (appendTextAttr P [] gp a).1 :=
  tLoop_buf P gp [a] buf

theorem tBytes_cons (P : Std) (gp : Bytes) (a : Attr) (as : List Attr) :
    tBytes P gp (a :: as) = (appendTextAttr P [] gp a).1 ++ tBytes P gp as :=
  tLoop_buf P gp as _

/-- `Handle` up to and including `msg=…` -/
def textHeader (P : Std) (addSource : Bool) (r : Record) : Except GoPanic Bytes := do
  let buf : Bytes := []
  let buf := buf ++ timeKey ++ [0x3d] ++ r.time
  let buf := buf ++ [0x20] ++ levelKey ++ [0x3d]
  let lab ← fullLevel r.level
  let buf := buf ++ lab
  let buf := if addSource then appendTextString P (buf ++ [0x20] ++ sourceKey ++ [0x3d]) (sourceText r) else buf
  pure (appendTextString P (buf ++ [0x20] ++ msgKey ++ [0x3d]) r.msg)

theorem text_handle_eq (P : Std) (addSource : Bool) (h : TextHandler.Handler) (r : Record) :
    handle P addSource h r =
      (textHeader P addSource r).map
        (fun hd => hd ++ h.pre ++ tBytes P h.groupPrefix r.attrs ++ [0x0a]) := by
  unfold handle textHeader
  cases fullLevel r.level with
  | error e => rfl
  | ok lab =>
    simp only [bind, Except.bind, pure, Except.pure, Except.map]
    rw [ite_length_pos h.pre _ _ (fun e => by rw [e, List.append_nil]),
      ite_length_pos r.attrs _ _ (fun e => by rw [e]; rfl), tLoop_buf]

theorem textHeader_attrs (P : Std) (addSource : Bool) (r : Record) (as : List Attr) :
    textHeader P addSource { r with attrs := as } = textHeader P addSource r := rfl

theorem text_withAttrs_eq (P : Std) (h : TextHandler.Handler) (as : List Attr) :
    withAttrs P h as = { h with pre := h.pre ++ tBytes P h.groupPrefix as } := by
  rw [withAttrs_eq, tLoop_buf]

theorem joinPrefix_dot (p g : Bytes) : joinPrefix p g = dot p g := by
  cases p <;> simp [joinPrefix, dot]

theorem text_withGroup_eq (h : TextHandler.Handler) (g : Bytes) :
    withGroup h g = { h with groupPrefix := joinPrefix h.groupPrefix g } := by
  rw [withGroup_dot, joinPrefix_dot]

theorem tBytes_group (P : Std) (gp g : Bytes) (as : List Attr) (hg : g ≠ []) :
    tBytes P gp [.group g as] = tBytes P (joinPrefix gp g) as := by
  have h2 := appendAttrs_render P [gp, g] as []
  rw [show dotted [gp, g] = joinPrefix gp g from (joinPrefix_dot gp g).symm] at h2
  rw [tBytes, tBytes, appendAttrs_one, h2]
  simp [flatAttrs, flatAttr, hg]

theorem tBytes_inline (P : Std) (gp : Bytes) (as : List Attr) :
    tBytes P gp [.group [] as] = tBytes P gp as := by
  rw [tBytes, tBytes, appendAttrs_one, appendAttrs_one]
  simp [flatAttrs, flatAttr]

structure TextSound (P : Std) (R : Renderer Attr) : Prop where
  attr : ∀ (gp : Bytes) (a : Attr), (R.attr (.text gp) a).1.flatten = (appendTextAttr P [] gp a).1

def textR (P : Std) : Renderer Attr where
  attr := fun sh a =>
    match sh with
    | .text gp => ([(appendTextAttr P [] gp a).1], true)
    | _ => ([], false)
  groupOpen := fun _ _ => []

def textView (h : TextHandler.Handler) : PView := ⟨h.pre, .text h.groupPrefix⟩

def textOp : DOp Attr → Op
  | .withAttrs as => .withAttrs as
  | .withGroup g => .withGroup g

theorem text_attrsChunks (P : Std) (R : Renderer Attr) (hR : TextSound P R) (gp : Bytes) (as : List Attr) :
    (attrsChunks R (.text gp) as).1.flatten = tBytes P gp as ∧
    (attrsChunks R (.text gp) as).2 = .text gp := by
  induction as with
  | nil => simp [attrsChunks, tBytes, appendAttrs]
  | cons a as ih =>
    obtain ⟨i1, i2⟩ := ih
    simp only [attrsChunks, Shape.afterAttr, List.flatten_append, hR.attr, i1, i2, tBytes_cons, and_self]

theorem text_pureStep (P : Std) (R : Renderer Attr) (hR : TextSound P R) (h : TextHandler.Handler) (op : DOp Attr) :
    pureStep R (textView h) op = textView (applyOp P h (textOp op)) := by
  cases op with
  | withAttrs as =>
    obtain ⟨h1, h2⟩ := text_attrsChunks P R hR h.groupPrefix as
    simp [pureStep, textView, textOp, applyOp, text_withAttrs_eq, h1, h2]
  | withGroup g =>
    simp [pureStep, textView, textOp, applyOp, text_withGroup_eq]

/-- C03's alias-free reference is the pure Text model state -/
theorem text_renderChain (P : Std) (R : Renderer Attr) (hR : TextSound P R) (chain : List (DOp Attr)) :
    renderChain R .text chain = textView (TextHandler.derive P (chain.map textOp)) :=
  foldl_pureStep R textView textOp (applyOp P) (text_pureStep P R hR) chain {}

theorem text_lineOf (P : Std) (R : Renderer Attr) (hR : TextSound P R) (addSource : Bool)
    (h : TextHandler.Handler) (r : Record) :
    handle P addSource h r = (textHeader P addSource r).map
      (fun hd => lineOf R (textView h).pre (textView h).shape hd r.attrs) := by
  rw [text_handle_eq]
  obtain ⟨h1, _⟩ := text_attrsChunks P R hR h.groupPrefix r.attrs
  simp [lineOf, textView, h1, closers]

end Text

section Nano
open NanoHandler

def nBytes (as : List Attr) : Bytes := appendNanoValues [] as

mutual
theorem nAttr_buf : ∀ (a : Attr) (buf : Bytes), appendNanoValue buf a = buf ++ appendNanoValue [] a
  | .leaf _ v, buf => by simp [appendNanoValue]
  | .group _ as, buf => by simp only [appendNanoValue]; exact nLoop_buf as buf
theorem nLoop_buf : ∀ (as : List Attr) (buf : Bytes), appendNanoValues buf as = buf ++ appendNanoValues [] as
  | [], buf => by simp [appendNanoValues]
  | a :: as, buf => by
    simp only [appendNanoValues]
    rw [nLoop_buf as (appendNanoValue buf a), nLoop_buf as (appendNanoValue [] a), nAttr_buf a buf]
    simp
end

theorem nBytes_cons (a : Attr) (as : List Attr) : nBytes (a :: as) = appendNanoValue [] a ++ nBytes as :=
  nLoop_buf as _

theorem nBytes_group (g : Bytes) (as : List Attr) : nBytes [.group g as] = nBytes as := by
  simp [nBytes, appendNanoValues, appendNanoValue]

/-- `Handle` up to and including the message -/
def nanoHeader (addSource : Bool) (r : Rec) : Except GoPanic Bytes := do
  let buf : Bytes := r.time ++ [0x20]
  let lvl ← shortLevel r.level
  let buf := buf ++ lvl
  let buf := if addSource && r.hasPC then buf ++ 0x20 :: appendNanoSource r.file r.line else buf
  return (if r.msg.length > 0 then buf ++ 0x20 :: r.msg else buf)

theorem nano_handle_eq (addSource : Bool) (h : H) (r : Rec) :
    handle addSource h r =
      (nanoHeader addSource r).map (fun hd => hd ++ h.pre ++ nBytes r.attrs ++ [0x0A]) := by
  unfold handle nanoHeader
  cases shortLevel r.level with
  | error e => rfl
  | ok lvl =>
    simp only [bind, Except.bind, pure, Except.pure, Except.map]
    rw [TextProofs.ite_length_pos h.pre _ _ (fun e => by rw [e, List.append_nil]),
      TextProofs.ite_length_pos r.attrs _ _ (fun e => by rw [e]; rfl), nLoop_buf]
    rfl

theorem nanoHeader_attrs (addSource : Bool) (r : Rec) (as : List Attr) :
    nanoHeader addSource { r with attrs := as } = nanoHeader addSource r := rfl

theorem nano_withAttrs_eq (h : H) (as : List Attr) : withAttrs h as = { pre := h.pre ++ nBytes as } := by
  cases as with
  | nil => simp [withAttrs, nBytes, appendNanoValues]
  | cons a as => simp [withAttrs, nLoop_buf (a :: as) h.pre, nBytes]

structure NanoSound (R : Renderer Attr) : Prop where
  attr : ∀ (a : Attr), (R.attr .nano a).1.flatten = appendNanoValue [] a

def nanoR : Renderer Attr where
  attr := fun _ a => ([appendNanoValue [] a], true)
  groupOpen := fun _ _ => []

def nanoView (h : H) : PView := ⟨h.pre, .nano⟩

def nanoOp : DOp Attr → Deriv
  | .withAttrs as => .attrs as
  | .withGroup g => .group g

theorem nano_attrsChunks (R : Renderer Attr) (hR : NanoSound R) (as : List Attr) :
    (attrsChunks R .nano as).1.flatten = nBytes as ∧ (attrsChunks R .nano as).2 = .nano := by
  induction as with
  | nil => simp [attrsChunks, nBytes, appendNanoValues]
  | cons a as ih =>
    obtain ⟨i1, i2⟩ := ih
    simp only [attrsChunks, Shape.afterAttr, List.flatten_append, hR.attr, i1, i2, nBytes_cons, and_self]

theorem nano_pureStep (R : Renderer Attr) (hR : NanoSound R) (h : H) (op : DOp Attr) :
    pureStep R (nanoView h) op = nanoView (NanoHandler.derive h (nanoOp op)) := by
  cases op with
  | withAttrs as =>
    obtain ⟨h1, h2⟩ := nano_attrsChunks R hR as
    simp [pureStep, nanoView, nanoOp, NanoHandler.derive, nano_withAttrs_eq, h1, h2]
  | withGroup g =>
    simp [pureStep, nanoView, nanoOp, NanoHandler.derive, withGroup]

theorem nano_renderChain (R : Renderer Attr) (hR : NanoSound R) (chain : List (DOp Attr)) :
    renderChain R .nano chain = nanoView (deriveAll H.init (chain.map nanoOp)) :=
  foldl_pureStep R nanoView nanoOp NanoHandler.derive (nano_pureStep R hR) chain H.init

theorem nano_lineOf (R : Renderer Attr) (hR : NanoSound R) (addSource : Bool) (h : H) (r : Rec) :
    handle addSource h r = (nanoHeader addSource r).map
      (fun hd => lineOf R (nanoView h).pre (nanoView h).shape hd r.attrs) := by
  rw [nano_handle_eq]
  obtain ⟨h1, _⟩ := nano_attrsChunks R hR r.attrs
  simp [lineOf, nanoView, h1, closers]

end Nano

end Glb.RendererInst
