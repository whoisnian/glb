/-
  Helper lemmas for C19: prefix sums, the inductive invariant `Good` of the ProgressWriter
  transition system and its preservation by every enabled step.
-/
import Glb.Model.Progress

namespace Glb.Progress
open Glb.Generated

theorem sum_snoc (l : List Int) (x : Int) : (l ++ [x]).sum = l.sum + x := by simp

theorem psumsFrom_append (acc : Int) (l : List Int) (x : Int) :
    psumsFrom acc (l ++ [x]) = psumsFrom acc l ++ [acc + l.sum + x] := by
  induction l generalizing acc with
  | nil => simp [psumsFrom]
  | cons y ys ih => simp [psumsFrom, ih]; omega

theorem psums_append (l : List Int) (x : Int) : psums (l ++ [x]) = psums l ++ [l.sum + x] := by
  simp [psums, psumsFrom_append]

theorem sublist_psums_append {r l : List Int} (h : r.Sublist (psums l)) (x : Int) :
    r.Sublist (psums (l ++ [x])) :=
  psums_append .. ▸ h.trans (List.sublist_append_left ..)

theorem psumsFrom_sorted (l : List Int) (h : ∀ x ∈ l, 0 ≤ x) (acc : Int) :
    (acc :: (psumsFrom acc l ++ [acc + l.sum])).Pairwise (· ≤ ·) := by
  induction l generalizing acc with
  | nil => simp [psumsFrom]
  | cons y ys ih =>
    have hy := h y (by simp)
    have ih := ih (fun x hx => h x (by simp [hx])) (acc + y)
    rw [List.sum_cons, ← Int.add_assoc]
    refine List.pairwise_cons.2 ⟨fun v hv => ?_, ih⟩
    rcases List.mem_cons.1 hv with rfl | hv
    · omega
    · have := (List.pairwise_cons.1 ih).1 v hv
      omega

theorem psums_total_pairwise (l : List Int) (h : ∀ x ∈ l, 0 ≤ x) :
    (psums l ++ [l.sum]).Pairwise (· ≤ ·) := by
  simpa [psums] using (List.pairwise_cons.1 (psumsFrom_sorted l h 0)).2

/-- The producer's side, one constructor per program point (`wr*` inside Write/WriteString, `cl*`
    inside Close), each on the state as it is there.  `R` is what had been reported when the current
    call began and `recvd`, or `l` once Close has sent, what had been received: a subsequence of the
    prefix sums of `R` until the select of this call has run. -/
inductive At (P : Prog) : St → Prop
  | idle (todo : List WOp) (wc : Bool) : counts P.writes = R ++ counts todo → recvd.Sublist (psums R) →
      At P ⟨R.sum, reg, none, [], todo, wc, c, false, R, recvd, false, false⟩
  | wrEntry (o : WOp) : counts P.writes = R ++ o.n :: counts todo → recvd.Sublist (psums R) →
      At P ⟨R.sum, reg, some (.w o), progOf (.w o), todo, wc, c, false, R, recvd, false, false⟩
  | wrCallSum : counts P.writes = R ++ o.n :: counts todo → recvd.Sublist (psums R) →
      At P ⟨R.sum, o.n, some (.w o), [.callSum, .ret], todo, wc, c, false, R ++ [o.n], recvd, false, false⟩
  | wrAddSize : counts P.writes = R ++ o.n :: counts todo → recvd.Sublist (psums R) →
      At P ⟨R.sum, o.n, some (.w o), [.addSize, .ifStatus, .trySendSize, .endIf, .ret], todo, wc, c,
        false, R ++ [o.n], recvd, false, false⟩
  | wrIf : counts P.writes = R ++ o.n :: counts todo → recvd.Sublist (psums R) →
      At P ⟨R.sum + o.n, o.n, some (.w o), [.ifStatus, .trySendSize, .endIf, .ret], todo, wc, c,
        false, R ++ [o.n], recvd, false, false⟩
  | wrSelect (c : Cons) : counts P.writes = R ++ o.n :: counts todo → recvd.Sublist (psums R) →
      At P ⟨R.sum + o.n, o.n, some (.w o), [.trySendSize, .endIf, .ret], todo, wc, c,
        false, R ++ [o.n], recvd, false, false⟩
  | wrEndIf : counts P.writes = R ++ o.n :: counts todo → recvd.Sublist (psums (R ++ [o.n])) →
      At P ⟨R.sum + o.n, o.n, some (.w o), [.endIf, .ret], todo, wc, c,
        false, R ++ [o.n], recvd, false, false⟩
  | wrRet : counts P.writes = R ++ o.n :: counts todo → recvd.Sublist (psums (R ++ [o.n])) →
      At P ⟨R.sum + o.n, o.n, some (.w o), [.ret], todo, wc, c,
        false, R ++ [o.n], recvd, false, false⟩
  | clEntry : counts P.writes = R → recvd.Sublist (psums R) →
      At P ⟨R.sum, reg, some .close, closeProg, [], false, c, false, R, recvd, false, false⟩
  | clSend (c : Cons) : counts P.writes = R → recvd.Sublist (psums R) →
      At P ⟨R.sum, reg, some .close, [.sendSize, .closeStatus, .endIf], [], false, c, false, R, recvd, false, false⟩
  | clClose : counts P.writes = R → l.Sublist (psums R) →
      At P ⟨R.sum, reg, some .close, [.closeStatus, .endIf], [], false, c, false, R, l ++ [R.sum], true, false⟩
  | clEndIf : counts P.writes = R → l.Sublist (psums R) →
      At P ⟨R.sum, reg, some .close, [.endIf], [], false, c, true, R, l ++ [R.sum], true, false⟩
  | clEnd : counts P.writes = R → l.Sublist (psums R) →
      At P ⟨R.sum, reg, some .close, [], [], false, c, true, R, l ++ [R.sum], true, false⟩
  | done : counts P.writes = R → l.Sublist (psums R) →
      At P ⟨R.sum, reg, none, [], [], false, c, true, R, l ++ [R.sum], true, true⟩


variable {P : Prog} {s s' : St} {lb : Label}

/-- nothing in it speaks of the consumer -/
theorem At.cons (h : At P s) (c : Cons) : At P { s with cons := c } := by
  cases h <;> constructor <;> assumption

/-- As long as the program has not run to completion the producer has an enabled step, except at Close's
    blocking send while no receiver is parked (`C19.never_blocks`, `C19.only_close_send_needs_consumer`). -/
theorem At.progress (h : At P s) (hf : finished s = false) :
    prodSteps s ≠ [] ∨
    (s.cur = some .close ∧ s.cont = [.sendSize, .closeStatus, .endIf] ∧ s.cons ≠ .parked) := by
  cases h with
  | idle todo wc => cases todo <;> cases wc <;> simp_all [prodSteps, finished]
  | wrEntry o => cases hs : o.str <;> simp [prodSteps, progOf, hs, writeProg, writeStringProg]
  | wrSelect c => by_cases hc : c = .parked <;> simp [prodSteps, hc]
  | clSend c => by_cases hc : c = .parked <;> simp [prodSteps, hc]
  | done => simp [finished] at hf
  | _ => exact .inl (List.cons_ne_nil _ _)

structure Good (P : Prog) (s : St) : Prop where
  prod : At P s
  closedSeen : s.cons = .gotClosed → s.closed = true

theorem good_init (P : Prog) : Good P (init P) :=
  ⟨.idle (R := []) _ _ rfl (.slnil), nofun⟩

theorem consSteps_spec (h : (lb, s') ∈ consSteps s) :
    ∃ c, s' = { s with cons := c } ∧ (c = .gotClosed → s.closed = true) := by
  unfold consSteps at h
  split at h <;> simp at h
  case h_2 =>
    -- a parked consumer un-parks, or sees the close once the channel is closed
    obtain h | ⟨hc, h⟩ := h
    · exact ⟨_, h.2, nofun⟩
    · exact ⟨_, h.2, fun _ => hc⟩
  all_goals exact ⟨_, h.2, nofun⟩

theorem Good.prodStep (hg : Good P s) (hp : (lb, s') ∈ prodSteps s) : Good P s' := by
  obtain ⟨h, hcl⟩ := hg
  cases h with
  | idle todo wc hist sub =>
    cases todo with
    | cons o rest => cases List.mem_singleton.1 hp; exact ⟨.wrEntry o hist sub, hcl⟩
    | nil =>
      cases wc with
      | false => cases hp
      | true =>
        cases List.mem_singleton.1 hp
        exact ⟨.clEntry (by simpa [counts] using hist) sub, hcl⟩
  | wrEntry o hist sub =>
    cases hs : o.str <;> simp [prodSteps, progOf, hs, writeProg, writeStringProg] at hp <;>
      obtain ⟨rfl, rfl⟩ := hp <;> exact ⟨.wrCallSum hist sub, hcl⟩
  | wrCallSum hist sub => cases List.mem_singleton.1 hp; exact ⟨.wrAddSize hist sub, hcl⟩
  | wrAddSize hist sub => cases List.mem_singleton.1 hp; exact ⟨.wrIf hist sub, hcl⟩
  | wrIf hist sub => cases List.mem_singleton.1 hp; exact ⟨.wrSelect _ hist sub, hcl⟩
  | wrSelect c hist sub =>
    by_cases hc : c = .parked
    · subst hc
      cases List.mem_singleton.1 hp
      exact ⟨.wrEndIf hist (psums_append .. ▸ sub.append_right _), nofun⟩
    · simp [prodSteps, hc] at hp
      obtain ⟨rfl, rfl⟩ := hp
      exact ⟨.wrEndIf hist (sublist_psums_append sub _), hcl⟩
  | wrEndIf hist sub => cases List.mem_singleton.1 hp; exact ⟨.wrRet hist sub, hcl⟩
  | wrRet hist sub =>
    cases List.mem_singleton.1 hp
    exact ⟨sum_snoc .. ▸ .idle _ _ (by simpa using hist) sub, hcl⟩
  | clEntry hist sub => cases List.mem_singleton.1 hp; exact ⟨.clSend _ hist sub, hcl⟩
  | clSend c hist sub =>
    by_cases hc : c = .parked
    · subst hc; cases List.mem_singleton.1 hp; exact ⟨.clClose hist sub, nofun⟩
    · simp [prodSteps, hc] at hp
  | clClose hist sub => cases List.mem_singleton.1 hp; exact ⟨.clEndIf hist sub, fun _ => rfl⟩
  | clEndIf hist sub => cases List.mem_singleton.1 hp; exact ⟨.clEnd hist sub, hcl⟩
  | clEnd hist sub => cases List.mem_singleton.1 hp; exact ⟨.done hist sub, hcl⟩
  | done => cases hp

theorem good_of_reachable (P : Prog) (s : St) (h : Reachable P s) : Good P s := by
  induction h with
  | init => exact good_init P
  | step _ hstep ih =>
    rcases List.mem_append.1 hstep with hp | hc
    · exact ih.prodStep hp
    · obtain ⟨c, rfl, hcl⟩ := consSteps_spec hc
      exact ⟨ih.prod.cons c, hcl⟩

theorem prodSteps_byProducer (s : St) (l : Label) (s' : St) (h : (l, s') ∈ prodSteps s) :
    l.byProducer = true := by
  unfold prodSteps finish rendezvous at h
  repeat' split at h
  all_goals simp at h
  all_goals exact h.1 ▸ rfl

/-- executable schedules (for the non-vacuity examples of `Props/C19.lean`): take the `i`-th enabled
    step -/
def runFrom (s : St) : List Nat → Option St
  | [] => some s
  | i :: is => match (enabled s)[i]? with
    | some (_, s') => runFrom s' is
    | none => none

theorem runFrom_reachable (P : Prog) (s : St) (h : Reachable P s) (sched : List Nat) (t : St)
    (hr : runFrom s sched = some t) : Reachable P t := by
  induction sched generalizing s with
  | nil => simp [runFrom] at hr; subst hr; exact h
  | cons i is ih =>
    simp only [runFrom] at hr
    split at hr
    · next l s' he => exact ih s' (.step h (List.mem_of_getElem? he)) hr
    · simp at hr

theorem run_witness (P : Prog) (sched : List Nat) (p : St → Bool)
    (h : (runFrom (init P) sched).any p = true) : ∃ s, Reachable P s ∧ p s = true := by
  cases hr : runFrom (init P) sched with
  | none => simp [hr] at h
  | some t => exact ⟨t, runFrom_reachable P _ .init _ t hr, by simpa [hr] using h⟩

end Glb.Progress
