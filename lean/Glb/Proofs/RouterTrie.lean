/-
  Helper lemmas for C04: the association-list map and the two trie operations
  `descend` (read) and `modifyAt` (walk with nextNodeOrNew, mutate the node reached).
  Everything recurses on the key list; no induction over the nested `Node` is needed.
-/
import Glb.Model.Router

namespace Glb.Router

theorem assocGet_assocSet {α} (l : List (Bytes × α)) (k k' : Bytes) (v : α) :
    assocGet (assocSet l k v) k' = if k = k' then some v else assocGet l k' := by
  induction l with
  | nil => simp [assocSet, assocGet]
  | cons e r ih =>
    obtain ⟨k0, v0⟩ := e
    by_cases h0 : k0 = k
    · subst h0; by_cases h1 : k0 = k' <;> simp [assocSet, assocGet, h1]
    · by_cases h1 : k0 = k'
      · subst h1
        have : ¬ k = k0 := fun h => h0 h.symm
        simp [assocSet, assocGet, h0, this]
      · simp [assocSet, assocGet, h0, h1, ih]

namespace Node

@[simp] theorem next_mk (a : List (Bytes × Node)) (b c) : (Node.mk a b c).next = a := rfl
@[simp] theorem info_mk (a : List (Bytes × Node)) (b c) : (Node.mk a b c).info = b := rfl
@[simp] theorem params_mk (a : List (Bytes × Node)) (b c) : (Node.mk a b c).params = c := rfl

theorem child_setChild (n : Node) (k k' : Bytes) (c : Node) :
    (n.setChild k c).child k' = if k = k' then some c else n.child k' := by
  simp [child, setChild, assocGet_assocSet]

@[simp] theorem info_setChild (n : Node) (k : Bytes) (c : Node) : (n.setChild k c).info = n.info := rfl
@[simp] theorem params_setChild (n : Node) (k : Bytes) (c : Node) : (n.setChild k c).params = n.params := rfl

@[simp] theorem child_empty (k : Bytes) : Node.empty.child k = none := rfl
@[simp] theorem info_empty : Node.empty.info = none := rfl
@[simp] theorem params_empty : Node.empty.params = [] := rfl

end Node

/-- the payload of a node: `info` and `paramNameList` -/
def pay (n : Node) : Option RouteId × List Bytes := (n.info, n.params)

@[simp] theorem pay_empty : pay Node.empty = (none, []) := rfl
@[simp] theorem pay_setChild (n : Node) (k : Bytes) (c : Node) : pay (n.setChild k c) = pay n := rfl

@[simp] theorem descend_nil (n : Node) : descend n [] = some n := rfl

theorem descend_cons (n : Node) (k : Bytes) (ks : List Bytes) :
    descend n (k :: ks) = (n.child k).bind (fun c => descend c ks) := by
  simp only [descend]; cases n.child k <;> rfl

theorem descend_empty (ks : List Bytes) : descend Node.empty ks = if ks = [] then some Node.empty else none := by
  cases ks <;> simp [descend_cons]

theorem descend_append (n : Node) (ks ks' : List Bytes) :
    descend n (ks ++ ks') = (descend n ks).bind (fun c => descend c ks') := by
  induction ks generalizing n with
  | nil => simp
  | cons k ks ih =>
    simp only [List.cons_append, descend_cons]
    cases n.child k <;> simp [ih]

theorem child_eq_descend {t : Node} {ks : List Bytes} {node : Node} (hd : descend t ks = some node) (k : Bytes) :
    node.child k = descend t (ks ++ [k]) := by
  simp only [descend_append, hd, Option.bind_some, descend_cons]
  cases node.child k <;> rfl

/-- `descend` into what `nextNodeOrNew(k)` returns -/
theorem descend_childOrNew (t : Node) (k : Bytes) (r : List Bytes) :
    descend (t.childOrNew k) r =
      match t.child k with
      | some _ => descend t (k :: r)
      | none => if r = [] then some Node.empty else none := by
  unfold Node.childOrNew
  cases h : t.child k with
  | none => simp [descend_empty]
  | some c => simp [descend_cons, h]

/-- payload of the node at `ks`, `(nil, nil)` when there is none -/
def payAt (t : Node) (ks : List Bytes) : Option RouteId × List Bytes :=
  match descend t ks with
  | some n => pay n
  | none => (none, [])

theorem payAt_of_descend {t : Node} {ks : List Bytes} {n : Node} (h : descend t ks = some n) :
    payAt t ks = pay n := by
  simp only [payAt, h]

/-- a node made by `nextNodeOrNew` exists below `t` afterwards, and is empty -/
theorem childOrNew_cases (t : Node) (k : Bytes) (r : List Bytes) :
    payAt (t.childOrNew k) r = payAt t (k :: r) ∧
    (descend (t.childOrNew k) r).getD Node.empty = (descend t (k :: r)).getD Node.empty ∧
    ((descend (t.childOrNew k) r).isSome ↔ (descend t (k :: r)).isSome ∨ r = []) := by
  unfold payAt
  rw [descend_childOrNew]
  cases hc : t.child k with
  | some c => simp only [true_and, iff_self_or]; rintro rfl; simp [descend_cons, hc]
  | none => by_cases hr : r = [] <;> simp [descend_cons, hc, hr]

/-- mutations that leave the children alone (`id`, `setPayload`) -/
def KeepsNext (g : Node → Node) : Prop := ∀ n, (g n).next = n.next

theorem KeepsNext.child {g} (h : KeepsNext g) (n : Node) (k : Bytes) : (g n).child k = n.child k := by
  simp [Node.child, h n]

theorem keepsNext_id : KeepsNext (fun n => n) := fun _ => rfl
theorem keepsNext_setPayload (id : RouteId) (names : List Bytes) : KeepsNext (setPayload id names) := fun _ => rfl

theorem descend_modifyAt_nil (g : Node → Node) (hg : KeepsNext g) (t : Node) (ks' : List Bytes) :
    descend (modifyAt g t []) ks' = if ks' = [] then some (g t) else descend t ks' := by
  cases ks' with
  | nil => simp [modifyAt]
  | cons k r => simp [modifyAt, descend_cons, hg.child]

theorem descend_modifyAt_cons (g : Node → Node) (t : Node) (k : Bytes) (ks : List Bytes) (k' : Bytes) (r : List Bytes) :
    descend (modifyAt g t (k :: ks)) (k' :: r) =
      if k = k' then descend (modifyAt g (t.childOrNew k) ks) r else descend t (k' :: r) := by
  simp only [modifyAt, descend_cons, Node.child_setChild]
  by_cases h : k = k' <;> simp [h]

theorem isSome_descend_modifyAt (g : Node → Node) (hg : KeepsNext g) (t : Node) (ks ks' : List Bytes) :
    (descend (modifyAt g t ks) ks').isSome ↔ (descend t ks').isSome ∨ ks' <+: ks := by
  induction ks generalizing t ks' with
  | nil =>
    rw [descend_modifyAt_nil g hg]
    by_cases h : ks' = []
    · subst h; simp
    · simp [h]
  | cons k ks ih =>
    cases ks' with
    | nil => simp
    | cons k' r =>
      rw [descend_modifyAt_cons]
      by_cases h : k = k'
      · subst h
        simp only [if_true, ih, (childOrNew_cases t k r).2.2, List.cons_prefix_cons, true_and]
        by_cases hr : r = [] <;> simp [hr]
      · have h' : ¬ k' = k := fun e => h e.symm
        simp [h, h', List.cons_prefix_cons]

/-- the payloads after `modifyAt`: `g` has acted on the node reached (created empty if it was missing),
    all others are unchanged, new nodes carry none -/
theorem payAt_modifyAt (g : Node → Node) (hg : KeepsNext g) (t : Node) (ks ks' : List Bytes) :
    payAt (modifyAt g t ks) ks' =
      if ks' = ks then pay (g ((descend t ks).getD Node.empty)) else payAt t ks' := by
  induction ks generalizing t ks' with
  | nil =>
    unfold payAt
    rw [descend_modifyAt_nil g hg]
    by_cases h : ks' = []
    · subst h; simp
    · simp [h]
  | cons k ks ih =>
    cases ks' with
    | nil => simp [payAt, modifyAt]
    | cons k' r =>
      unfold payAt
      rw [descend_modifyAt_cons]
      by_cases hk : k = k'
      · subst hk
        have hc := childOrNew_cases t k
        have := ih (t.childOrNew k) r
        simp only [payAt] at this hc
        simp only [if_true, this, (hc r).1, (hc ks).2.1, List.cons.injEq, true_and]
      · have hk' : ¬ k' = k := fun e => hk e.symm
        simp [hk, hk']

end Glb.Router
