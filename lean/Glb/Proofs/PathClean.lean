/-
  The segment model of `path.Clean` (`Model/PathClean.lean`) against the normal form of
  `Spec/PathNF.lean`: the equations of `split` and `step`; the shape `WFr` that the stack machine
  keeps, hence `nf_wellFormed`; a printed normal form reads back to itself (`nf_render`, `nf_clean`);
  reading `a/b` continues the machine from the normal form of `a` (`nf_append_slash`), which gives
  the normal form of a resolved path (`nf_resolve`) that the theorems of `Props/C17.lean` are read
  off.
-/
import Glb.Spec.PathNF

namespace Glb.PathClean
open Glb.PathNF

theorem split_ne_nil (p : Bytes) : split p ≠ [] := by
  fun_induction split p <;> simp

theorem split_cons_slash (p : Bytes) : split (slash :: p) = [] :: split p := by
  simp [split]

theorem split_append (a b : Bytes) : split (a ++ slash :: b) = split a ++ split b := by
  fun_induction split a with
  | case1 => simp [split]
  | case2 cs ih => simp [split, ih]
  | case3 c cs hc s ss h ih => simp [split, hc, ih, h]
  | case4 c cs _ h => exact absurd h (split_ne_nil cs)

theorem split_noslash (s : Bytes) (h : slash ∉ s) : split s = [s] := by
  fun_induction split s <;> simp_all

theorem split_mem_noslash (p : Bytes) : ∀ s ∈ split p, slash ∉ s := by
  fun_induction split p with
  | case1 => simp
  | case2 cs ih => simpa using ih
  | case3 c cs hc s ss h ih => simpa [h, Ne.symm hc] using ih
  | case4 c cs hc => simpa using Ne.symm hc

theorem split_unsplit (segs : List Bytes) (hne : segs ≠ []) (hs : ∀ s ∈ segs, slash ∉ s) :
    split (unsplit segs) = segs := by
  fun_induction unsplit segs with
  | case1 => exact absurd rfl hne
  | case2 s => exact split_noslash s (hs s (by simp))
  | case3 s t rest ih =>
    rw [split_append, split_noslash s (hs s (by simp)), ih (by simp) (fun x hx => hs x (by simp [hx]))]
    rfl

theorem unsplit_append_single (xs : List Bytes) (s : Bytes) (h : xs ≠ []) :
    unsplit (xs ++ [s]) = unsplit xs ++ slash :: s := by
  fun_induction unsplit xs with
  | case1 => exact absurd rfl h
  | case2 x => rfl
  | case3 x y ys ih => simp [unsplit, ← ih]

theorem step_empty (r : Bool) (st : List Bytes) : step r st [] = st := by simp [step]

theorem step_dot (r : Bool) (st : List Bytes) : step r st dot = st := by simp [step]

theorem step_push (r : Bool) (st : List Bytes) (s : Bytes)
    (h1 : s ≠ []) (h2 : s ≠ dot) (h3 : s ≠ dotdot) : step r st s = s :: st := by
  simp [step, h1, h2, h3]

theorem step_dotdot_nil (r : Bool) : step r [] dotdot = if r then [] else [dotdot] := by
  simp [step, dotdot, dot]

theorem step_dotdot_cons (r : Bool) (top : Bytes) (rest : List Bytes) :
    step r (top :: rest) dotdot =
      if top ≠ dotdot then rest else if r then top :: rest else dotdot :: top :: rest := by
  simp [step, dotdot, dot]

theorem foldl_step_dotfree (r : Bool) (segs : List Bytes)
    (h : ∀ s ∈ segs, s ≠ dot ∧ s ≠ dotdot) (acc : List Bytes) :
    segs.foldl (step r) acc = (segs.filter (· ≠ [])).reverse ++ acc := by
  induction segs generalizing acc with
  | nil => rfl
  | cons s rest ih =>
    have hs := h s (by simp)
    rw [List.foldl_cons, ih (fun x hx => h x (by simp [hx]))]
    by_cases he : s = []
    · simp [he, step_empty]
    · simp [step_push r acc s he hs.1 hs.2, he]

theorem foldl_step_normal (r : Bool) (segs : List Bytes) (h : ∀ s ∈ segs, Normal s)
    (acc : List Bytes) : segs.foldl (step r) acc = segs.reverse ++ acc := by
  rw [foldl_step_dotfree r segs (fun s hs => ⟨(h s hs).2.1, (h s hs).2.2.1⟩) acc,
    List.filter_eq_self.mpr (fun s hs => by simpa using (h s hs).1)]

theorem step_dotdot_replicate (j : Nat) :
    step false (List.replicate j dotdot) dotdot = List.replicate (j + 1) dotdot := by
  cases j with
  | zero => simp [step_dotdot_nil]
  | succ j => simp [List.replicate_succ, step_dotdot_cons]

theorem foldl_step_dotdots (k j : Nat) :
    (List.replicate k dotdot).foldl (step false) (List.replicate j dotdot) =
      List.replicate (k + j) dotdot := by
  induction k generalizing j with
  | zero => simp
  | succ k ih =>
    rw [List.replicate_succ, List.foldl_cons, step_dotdot_replicate, ih]
    congr 1
    omega

/-- `WellFormed` for the reversed stack (top first) that `step` works on: the invariant of the fold
    in `stackOf` -/
def WFr (rooted : Bool) (acc : List Bytes) : Prop :=
  ∃ k segs, acc = segs ++ List.replicate k dotdot ∧ (∀ s ∈ segs, Normal s) ∧ (rooted = true → k = 0)

theorem wfr_nil (r : Bool) : WFr r [] := ⟨0, [], rfl, nofun, fun _ => rfl⟩

theorem step_wfr (r : Bool) (acc : List Bytes) (seg : Bytes) (h : WFr r acc) (hs : slash ∉ seg) :
    WFr r (step r acc seg) := by
  obtain ⟨k, segs, rfl, hn, hk⟩ := h
  by_cases h0 : seg = [] ∨ seg = dot
  · rw [step.eq_def, if_pos h0]
    exact ⟨k, segs, rfl, hn, hk⟩
  rw [not_or] at h0
  by_cases h2 : seg = dotdot
  · subst h2
    cases segs with
    | cons s segs' =>
      rw [List.cons_append, step_dotdot_cons, if_pos (hn s List.mem_cons_self).2.2.1]
      exact ⟨k, segs', rfl, fun x hx => hn x (List.mem_cons_of_mem _ hx), hk⟩
    | nil =>
      cases r with
      | true =>
        rw [hk rfl]
        exact wfr_nil true
      | false =>
        rw [List.nil_append, step_dotdot_replicate]
        exact ⟨k + 1, [], rfl, nofun, nofun⟩
  · rw [step_push r _ seg h0.1 h0.2 h2]
    exact ⟨k, seg :: segs, rfl, List.forall_mem_cons.mpr ⟨⟨h0.1, h0.2, h2, hs⟩, hn⟩, hk⟩

theorem noslash_of_normal_or_dotdot {s : Bytes} (h : Normal s ∨ s = dotdot) : s ≠ [] ∧ slash ∉ s := by
  rcases h with h | rfl
  · exact ⟨h.1, h.2.2.2⟩
  · decide

theorem wfr_mem {r : Bool} {st : List Bytes} (h : WFr r st) : ∀ s ∈ st, s ≠ [] ∧ slash ∉ s := by
  obtain ⟨k, segs, rfl, hn, _⟩ := h
  exact fun s hs => noslash_of_normal_or_dotdot ((List.mem_append.mp hs).imp (hn s) List.eq_of_mem_replicate)

theorem foldl_wfr (r : Bool) (segs : List Bytes) (hs : ∀ s ∈ segs, slash ∉ s) (acc : List Bytes)
    (h : WFr r acc) : WFr r (segs.foldl (step r) acc) := by
  induction segs generalizing acc with
  | nil => exact h
  | cons s rest ih =>
    exact ih (fun x hx => hs x (by simp [hx])) _ (step_wfr r acc s h (hs s (by simp)))

theorem nf_wellFormed (p : Bytes) : WellFormed (nf p) := by
  obtain ⟨k, segs, hacc, hn, hk⟩ :=
    foldl_wfr (isRooted p) (split p) (split_mem_noslash p) [] (wfr_nil _)
  exact ⟨k, segs.reverse, by simp [nf, stackOf, hacc], fun s hs => hn s (List.mem_reverse.mp hs), hk⟩

theorem isRooted_append (a b : Bytes) (h : a ≠ []) : isRooted (a ++ b) = isRooted a := by
  cases a with
  | nil => exact absurd rfl h
  | cons c cs => rfl

theorem isRooted_unsplit (s : Bytes) (rest : List Bytes) (h1 : s ≠ []) (h2 : slash ∉ s) :
    isRooted (unsplit (s :: rest)) = false := by
  cases s with
  | nil => exact absurd rfl h1
  | cons c cs => cases rest <;> simp [unsplit, isRooted, Ne.symm (List.ne_of_not_mem_cons h2)]

theorem foldl_split_unsplit (r : Bool) (xs : List Bytes) (h : ∀ s ∈ xs, Normal s) (acc : List Bytes) :
    (split (unsplit xs)).foldl (step r) acc = xs.reverse ++ acc := by
  by_cases hx : xs = []
  · subst hx; rfl
  · rw [split_unsplit xs hx (fun s hs => (h s hs).2.2.2)]
    exact foldl_step_normal r xs h acc

theorem nf_slash (q : Bytes) : nf (slash :: q) = ⟨true, stackOf true (split q)⟩ := by
  simp [nf, isRooted, stackOf, split_cons_slash, step_empty]

theorem nf_append_slash (a b : Bytes) (ha : a ≠ []) :
    nf (a ++ slash :: b) =
      ⟨(nf a).rooted, ((split b).foldl (step (nf a).rooted) (nf a).stack.reverse).reverse⟩ := by
  simp only [nf, isRooted_append a _ ha, stackOf, split_append, List.foldl_append,
    List.reverse_reverse]

theorem nf_render (n : NF) (h : WellFormed n) : nf n.render = n := by
  obtain ⟨rooted, stack⟩ := n
  obtain ⟨k, segs, rfl, hn, hk⟩ := h
  cases rooted with
  | true =>
    rw [hk rfl]
    simp [NF.render, render, nf_slash, stackOf, foldl_split_unsplit true segs hn]
  | false =>
    by_cases he : List.replicate k dotdot ++ segs = []
    · rw [he]
      rfl
    · have hall : ∀ s ∈ List.replicate k dotdot ++ segs, s ≠ [] ∧ slash ∉ s :=
        fun s hs => noslash_of_normal_or_dotdot
          ((List.mem_append.mp hs).symm.imp (hn s) List.eq_of_mem_replicate)
      have hroot : isRooted (unsplit (List.replicate k dotdot ++ segs)) = false := by
        obtain ⟨s, rest, hl⟩ := List.exists_cons_of_ne_nil he
        rw [hl] at hall ⊢
        exact isRooted_unsplit s rest (hall s List.mem_cons_self).1 (hall s List.mem_cons_self).2
      have hfold : (List.replicate k dotdot).foldl (step false) [] = List.replicate k dotdot :=
        foldl_step_dotdots k 0
      simp only [NF.render, render, Bool.false_eq_true, if_false, he, nf, hroot, stackOf,
        split_unsplit _ he (fun s hs => (hall s hs).2), List.foldl_append, hfold,
        foldl_step_normal false segs hn]
      simp

theorem nf_clean (p : Bytes) : nf (clean p) = nf p := nf_render (nf p) (nf_wellFormed p)

theorem nf_rooted_normal (p : Bytes) (h : (nf p).rooted = true) : ∀ s ∈ (nf p).stack, Normal s := by
  obtain ⟨k, segs, hst, hn, hk⟩ := nf_wellFormed p
  rw [hst, hk h]
  exact hn

theorem join_nonempty (base x : Bytes) (h : base ≠ []) :
    join [base, x] = clean (base ++ slash :: x) := by
  simp [join, List.dropWhile, h, unsplit]

theorem nf_forceSlash (url : Bytes) : nf (forceSlash url) = nf (slash :: url) := by
  cases url with
  | nil => rfl
  | cons c rest =>
    by_cases hc : c = slash
    · simp [forceSlash, hc, nf_slash, stackOf, split_cons_slash, step_empty]
    · simp [forceSlash, hc]

theorem resolve_eq_clean (base url : Bytes) (hb : base ≠ []) :
    resolveUrlPath base url = clean (base ++ slash :: slash :: unsplit (nf (slash :: url)).stack) := by
  rw [resolveUrlPath, fromSlash, join_nonempty base _ hb]
  show clean (base ++ slash :: (nf (forceSlash url)).render) = _
  rw [nf_forceSlash, nf_slash]
  rfl

theorem nf_resolve (base url : Bytes) (hb : base ≠ []) :
    nf (resolveUrlPath base url) =
      ⟨(nf base).rooted, (nf base).stack ++ (nf (slash :: url)).stack⟩ := by
  have hx := nf_rooted_normal (slash :: url) (by rw [nf_slash])
  rw [resolve_eq_clean base url hb, nf_clean, nf_append_slash base _ hb, split_cons_slash,
    List.foldl_cons, step_empty, foldl_split_unsplit _ _ hx]
  simp

end Glb.PathClean
