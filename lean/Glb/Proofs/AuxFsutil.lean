/- The index-carrying model of ExpandHomeDir never panics and computes the total `expandHomeDir`. -/
import Glb.Model.AuxFsutil
import Glb.Proofs.PathClean

namespace Glb.Aux.Home
open Glb Glb.PathClean

theorem keepCond_eq (raw : Bytes) : keepCond? raw = .ok (!expands raw) := by
  match raw with
  | [] => rfl
  | [c] => by_cases h : c = tilde <;> simp [keepCond?, expands, idx?, h, bind, Except.bind, pure, Except.pure]
  | c :: d :: rest =>
    by_cases h : c = tilde <;> by_cases h1 : d = slash <;>
      simp [keepCond?, expands, idx?, h, h1, bind, Except.bind, pure, Except.pure]

theorem expandHomeDir_eq (home raw : Bytes) : expandHomeDir? home raw = .ok (expandHomeDir home raw) := by
  unfold expandHomeDir? expandHomeDir userHomeDir
  rw [keepCond_eq]
  cases he : expands raw with
  | false => rfl
  | true =>
    have ht : slice? raw 1 raw.length = .ok raw.tail := by
      cases raw with
      | nil => cases he
      | cons c r => simp [slice?]
    by_cases hh : home = [] <;> by_cases hl : raw.length = 1 <;>
      simp [hh, hl, ht, bind, Except.bind, pure, Except.pure]

end Glb.Aux.Home
