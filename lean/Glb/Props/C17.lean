/-
  C17 — ResolveUrlPath never leaves the base directory.

  Only property theorems live here; helper lemmas are in Glb/Proofs/PathClean.lean, the model of
  `path.Clean` / `filepath.Join` / `fsutil.ResolveUrlPath` in Glb/Model/PathClean.lean, the
  normal form and `beneath` in Glb/Spec/PathNF.lean.  All theorems quantify over ALL byte strings
  (invalid UTF-8, NUL, backslashes included).
-/
import Glb.Proofs.PathClean

namespace Glb.C17
open Glb.PathClean Glb.PathNF

/-! ## Clean computes the normal form -/

/-- Clean prints the normal form of its argument, and what it prints is *in* normal form:
    reading the output back yields the same normal form (so `render` loses nothing and two
    paths have the same Clean iff they have the same normal form, see `clean_eq_iff`). -/
theorem clean_nf (p : Bytes) : clean p = (nf p).render ∧ nf (clean p) = nf p :=
  ⟨rfl, nf_clean p⟩

/-- shape of every normal form: `".."^k ++ segs`, all `segs` real names (non-empty, not ".",
    not "..", no '/'), and `k = 0` for rooted paths. -/
theorem nf_shape (p : Bytes) :
    ∃ k segs, (nf p).stack = List.replicate k dotdot ++ segs ∧ (∀ s ∈ segs, Normal s) ∧
      ((nf p).rooted = true → k = 0) :=
  nf_wellFormed p

/-- a rooted path has no ".." (nor "", ".") left after Clean: every remaining segment is a name -/
theorem clean_rooted_no_dotdot (p : Bytes) (h : (nf p).rooted = true) :
    ∀ s ∈ (nf p).stack, Normal s :=
  nf_rooted_normal p h

/-- in particular the cleaned rooted path is "/" followed by names separated by single slashes -/
theorem clean_rooted_form (p : Bytes) (h : (nf p).rooted = true) :
    clean p = slash :: unsplit (nf p).stack := by
  show render (nf p).rooted _ = _
  rw [h]
  rfl

theorem clean_idem (p : Bytes) : clean (clean p) = clean p :=
  congrArg NF.render (nf_clean p)

/-- Clean identifies exactly the paths with the same normal form -/
theorem clean_eq_iff (p q : Bytes) : clean p = clean q ↔ nf p = nf q := by
  constructor
  · intro h
    rw [← nf_clean p, ← nf_clean q, h]
  · exact congrArg NF.render

/-! ## Containment -/

/-- **C17.** For every non-empty base and every URL path (arbitrary bytes) the resolved path has
    the rootedness of the base and its normal form is the normal form of the base followed by
    the normal-form segments of `"/" ++ url`, all of which are real names: the result is the base
    itself or lies beneath it. -/
theorem resolve_contained (base url : Bytes) (hb : base ≠ []) :
    beneathVia base (resolveUrlPath base url) (nf (slash :: url)).stack := by
  have hnf := nf_resolve base url hb
  exact ⟨by rw [hnf], nf_rooted_normal (slash :: url) (by rw [nf_slash]), by rw [hnf]⟩

theorem resolve_beneath (base url : Bytes) (hb : base ≠ []) :
    beneath base (resolveUrlPath base url) :=
  ⟨_, resolve_contained base url hb⟩

/-- the resolved path is always clean (a fixed point of Clean) -/
theorem resolve_clean (base url : Bytes) (hb : base ≠ []) :
    clean (resolveUrlPath base url) = resolveUrlPath base url := by
  rw [resolve_eq_clean base url hb, clean_idem]

/-- the returned text itself: the base's normal form with the URL's names appended, printed.
    (`clean base` is the same print without the appended names.) -/
theorem resolve_text (base url : Bytes) (hb : base ≠ []) :
    resolveUrlPath base url =
      render (nf base).rooted ((nf base).stack ++ (nf (slash :: url)).stack) ∧
    clean base = render (nf base).rooted (nf base).stack := by
  refine ⟨?_, rfl⟩
  rw [← resolve_clean base url hb]
  exact congrArg NF.render (nf_resolve base url hb)

/-- For a URL path without "." / ".." segments the result is simply `filepath.Join(base, url)`
    `= Clean(base + "/" + url)`. -/
theorem resolve_plain (base url : Bytes) (hb : base ≠ []) (hu : DotFree url) :
    resolveUrlPath base url = clean (base ++ slash :: url) ∧
      resolveUrlPath base url = join [base, url] := by
  have h1 : resolveUrlPath base url = clean (base ++ slash :: url) := by
    rw [← resolve_clean base url hb]
    apply (clean_eq_iff _ _).mpr
    -- no "." or "..": both stacks are the non-empty segments of `url` on top of the stack of `base`
    rw [nf_resolve base url hb, nf_append_slash base url hb, nf_slash, stackOf,
      foldl_step_dotfree _ _ hu, foldl_step_dotfree _ _ hu]
    simp
  exact ⟨h1, by rw [h1, join_nonempty base url hb]⟩

/-! ## Non-vacuity: concrete hostile inputs (`b "…"` spelled as bytes) -/

-- "/data", "../../etc/passwd" ↦ "/data/etc/passwd"
example : resolveUrlPath [47,100,97,116,97] [46,46,47,46,46,47,101,116,99,47,112,97,115,115,119,100]
    = [47,100,97,116,97,47,101,116,99,47,112,97,115,115,119,100] := by decide
-- "/data", "a/../../b" ↦ "/data/b"
example : resolveUrlPath [47,100,97,116,97] [97,47,46,46,47,46,46,47,98] = [47,100,97,116,97,47,98] := by decide
-- "/data", "" ↦ "/data"
example : resolveUrlPath [47,100,97,116,97] [] = [47,100,97,116,97] := by decide
-- "/data", "x" (no leading slash) ↦ "/data/x";  "/data", "/x" ↦ the same
example : resolveUrlPath [47,100,97,116,97] [120] = [47,100,97,116,97,47,120] := by decide
example : resolveUrlPath [47,100,97,116,97] [47,120] = [47,100,97,116,97,47,120] := by decide
-- relative base "..", url "/../a//" ↦ "../a";  base "a/../.." (= "..") the same
example : resolveUrlPath [46,46] [47,46,46,47,97,47,47] = [46,46,47,97] := by decide
example : resolveUrlPath [97,47,46,46,47,46,46] [47,46,46,47,97,47,47] = [46,46,47,97] := by decide
-- base ".", url "/.." ↦ ".";  base "/", url "..\\.." ↦ "/..\\.." (backslash is an ordinary byte)
example : resolveUrlPath [46] [47,46,46] = [46] := by decide
example : resolveUrlPath [47] [46,46,92,46,46] = [47,46,46,92,46,46] := by decide
-- the witness of `resolve_contained` for "../../etc/passwd" is ["etc","passwd"]
example : (nf (slash :: [46,46,47,46,46,47,101,116,99,47,112,97,115,115,119,100])).stack
    = [[101,116,99],[112,97,115,115,119,100]] := by decide
-- normal forms: "a/../../b/./c//" ↦ (relative, ["..","b","c"]);  "/../a" ↦ (rooted, ["a"])
example : nf [97,47,46,46,47,46,46,47,98,47,46,47,99,47,47] = ⟨false, [dotdot, [98], [99]]⟩ := by decide
example : nf [47,46,46,47,97] = ⟨true, [[97]]⟩ := by decide
-- hypotheses are satisfiable: "a//b/" is dot-free, "a/./b" and ".." are not; a rooted path exists
example : DotFree [97,47,47,98,47] := by decide
example : ¬ DotFree [97,47,46,47,98] := by decide
example : ¬ DotFree [46,46] := by decide
example : (nf [47,97]).rooted = true := by decide
-- containment is not trivially true: "/etc" is not beneath "/data", ".." is not beneath "."
example : ¬ beneath [47,100,97,116,97] [47,101,116,99] := by
  rintro ⟨xs, _, _, h⟩
  have h' : [[101,116,99]] = [[100,97,116,97]] ++ xs := h
  simp at h'
example : ¬ beneath [46] [46,46] := by
  rintro ⟨xs, _, hn, h⟩
  have h' : [dotdot] = [] ++ xs := h
  have hx : xs = [dotdot] := by simpa using h'.symm
  exact (hn dotdot (by simp [hx])).2.2.1 rfl

end Glb.C17
