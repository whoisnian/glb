/-
  C19 — ProgressWriter reports true, monotone progress and never stalls the writer.

  All theorems quantify over every program `P` (any list of Write/WriteString calls with any
  reported byte counts — short, failed, … — and an optional final Close) and over every state
  `Reachable P s`, i.e. every finite interleaving with every consumer schedule (the consumer may
  park in / leave the receive at any instant).  Only `received_monotone` needs `0 ≤ n`.
  Helper lemmas (the inductive invariant `Good`) are in Glb/Proofs/Progress.lean.
-/
import Glb.Proofs.Progress

namespace Glb.C19
open Glb.Progress Glb.Generated

/-- **Size is the sum of the reported counts.** Whenever the producer is not between "the wrapped
    writer returned n" and `pw.size += n`, `Size()` equals the sum of every byte count the
    wrapped writer has reported so far (short and failed writes included), and those counts are
    the first calls of the program, in order. -/
theorem size_is_sum (P : Prog) (s : St) (h : Reachable P s) (hp : addPending s = false) :
    s.size = s.reported.sum ∧ s.reported <+: counts P.writes := by
  -- `size`, `reported` are `R.sum`, `R` until the wrapped writer reports and `R.sum + o.n`, `R ++ [o.n]`
  -- from `wrIf` on; at the two points between (`wrCallSum`, `wrAddSize`) `hp` is false
  cases (good_of_reachable P s h).prod <;> simp [*] <;> simp [addPending] at hp

/-- between calls (where the owner may call `Size()`): the size is the sum of the counts of the
    calls completed so far -/
theorem size_at_rest (P : Prog) (s : St) (h : Reachable P s) (hc : s.cur = none) :
    s.size = ((counts P.writes).take (P.writes.length - s.todo.length)).sum := by
  have hl : ∀ ws, (counts ws).length = ws.length := fun ws => List.length_map ..
  cases (good_of_reachable P s h).prod with
  | idle todo wc hist => simp [hist, ← hl P.writes, hl todo]
  | done hist => simp [hist, ← hl P.writes]
  | _ => cases hc

/-- **A Write never blocks.** In every reachable state in which the producer is inside
    Write/WriteString, it has an enabled step — whatever the consumer is doing (`c` arbitrary). -/
theorem never_blocks (P : Prog) (s : St) (h : Reachable P s) (hw : inWrite s = true) (c : Cons) :
    ∃ l s', (l, s') ∈ enabled { s with cons := c } ∧ l.byProducer = true := by
  have hf : finished { s with cons := c } = false := by
    unfold inWrite at hw
    split at hw <;> simp_all [finished]
  rcases ((good_of_reachable P s h).prod.cons c).progress hf with hne | ⟨hcl, _⟩
  · obtain ⟨⟨l, s'⟩, hm⟩ := List.exists_mem_of_ne_nil _ hne
    exact ⟨l, s', List.mem_append_left _ hm, prodSteps_byProducer _ _ _ hm⟩
  · simp_all [inWrite]

/-- **A Write returns after boundedly many of its own steps.** Every step the producer takes inside a
    call strictly decreases `measure` (at most 9 at the start of a call), while consumer steps leave it
    unchanged (`cons_steps_keep_measure`): together with `never_blocks`, a Write returns after a bounded
    number of its own steps under every schedule. -/
theorem call_steps_decrease (s : St) (l : Label) (s' : St) (hc : s.cur.isSome = true)
    (hstep : (l, s') ∈ prodSteps s) : Progress.measure s' < Progress.measure s := by
  -- a step inside a call drops the head statement of `cont` (weight ≥ 1), puts the 4 statements of
  -- `sumProg` for `callSum` (weight 6), or returns (`cur := none`)
  unfold prodSteps finish rendezvous at hstep
  repeat' split at hstep
  all_goals simp at hstep
  all_goals simp_all [Progress.measure, weight, sumProg]
  all_goals omega

/-- the consumer's half of the bound of `call_steps_decrease`: a consumer step changes neither `measure` nor
    the producer's continuation and current call -/
theorem cons_steps_keep_measure (s : St) (l : Label) (s' : St) (hstep : (l, s') ∈ consSteps s) :
    Progress.measure s' = Progress.measure s ∧ s'.cont = s.cont ∧ s'.cur = s.cur := by
  obtain ⟨c, rfl, _⟩ := consSteps_spec hstep
  exact ⟨rfl, rfl, rfl⟩

/-- **Received values are prefix sums, in order.** Before Close's send the received sequence is a
    subsequence of the prefix sums of the reported counts (= the values `Size()` takes after each
    write); once Close has sent, it is such a subsequence followed by the total, and all calls
    of the program have been reported. -/
theorem received_monotone_prefix_sums (P : Prog) (s : St) (h : Reachable P s) :
    s.reported <+: counts P.writes ∧
    (s.sentTotal = false → s.recvd.Sublist (psums s.reported)) ∧
    (s.sentTotal = true → s.reported = counts P.writes ∧
        ∃ l : List Int, l.Sublist (psums s.reported) ∧ s.recvd = l ++ [s.reported.sum]) := by
  -- from the report to the select `recvd` is bounded by `psums R`, one entry short of `psums s.reported`
  cases (good_of_reachable P s h).prod <;> simp [*, sublist_psums_append]

/-- **Received values are non-decreasing**, when the wrapped writer never reports a negative count
    (from `received_monotone_prefix_sums`). -/
theorem received_monotone (P : Prog) (s : St) (h : Reachable P s)
    (hnn : ∀ o ∈ P.writes, 0 ≤ o.n) : s.recvd.Pairwise (· ≤ ·) := by
  obtain ⟨hpre, h0, h1⟩ := received_monotone_prefix_sums P s h
  have hpw := psums_total_pairwise s.reported fun x hx => by
    obtain ⟨o, ho, rfl⟩ := List.mem_map.1 (hpre.subset hx)
    exact hnn o ho
  cases hs : s.sentTotal with
  | false => exact hpw.sublist ((h0 hs).trans (List.sublist_append_left ..))
  | true =>
    obtain ⟨_, l, hl, hr⟩ := h1 hs
    exact hr ▸ hpw.sublist (hl.append_right _)

/-- **Close delivers the total.** Once Close has returned, the last value received is the sum
    of all reported counts of the program and the channel is closed. -/
theorem close_delivers_total (P : Prog) (s : St) (h : Reachable P s) (hd : s.closeDone = true) :
    s.recvd.getLast? = some (counts P.writes).sum ∧ s.closed = true ∧
      s.size = (counts P.writes).sum := by
  cases (good_of_reachable P s h).prod with
  | done hist => simp [hist]
  | _ => cases hd

/-- **Close's send is the only step that needs the consumer.** As long as the program has not
    run to completion the producer has an enabled step, except exactly at Close's blocking send
    while no receiver is parked — and that step is enabled as soon as the consumer parks. -/
theorem only_close_send_needs_consumer (P : Prog) (s : St) (h : Reachable P s)
    (hf : finished s = false) :
    prodSteps s ≠ [] ∨
    (s.cur = some .close ∧ s.cont = [.sendSize, .closeStatus, .endIf] ∧ s.cons ≠ .parked ∧
      prodSteps { s with cons := .parked } ≠ []) := by
  have hg := (good_of_reachable P s h).prod
  refine (hg.progress hf).imp_right fun ⟨hcur, hcont, hpk⟩ => ⟨hcur, hcont, hpk, ?_⟩
  exact ((hg.cons .parked).progress hf).resolve_right fun h => h.2.2 rfl

/-- a consumer that observes "closed" really saw `close(pw.status)` -/
theorem closed_observed_after_close (P : Prog) (s : St) (h : Reachable P s)
    (hc : s.cons = .gotClosed) : s.closed = true :=
  (good_of_reachable P s h).closedSeen hc

/-- Write reports 3; a failed Write reports 0; WriteString reports 2 (short); Close. -/
def demo : Prog := { writes := [⟨3, false, false⟩, ⟨0, true, false⟩, ⟨2, true, true⟩], close := true }

/-- consumer parked during write 1 and 3, away during write 2, parks for Close, sees the close -/
def demoSched : List Nat :=
  [0,0,0,0,0,1,0,0,0,1] ++ [0,0,0,0,0,0,0,0] ++ [0,0,0,0,0,1,0,0,0,1] ++ [0,0,0,0,0,0,0] ++ [0,0,1,0]

example : ∃ s, Reachable demo s ∧ s.closeDone = true ∧ s.recvd = [3, 5, 5] ∧ s.size = 5 ∧
    s.reported = [3, 0, 2] ∧ s.closed = true ∧ finished s = true :=
  ⟨_, runFrom_reachable _ _ .init demoSched _ rfl, by decide⟩

/-- a state inside a Write exists (hypothesis of `never_blocks`), with the consumer absent, at
    the select -/
example : ∃ s, Reachable demo s ∧ inWrite s = true ∧ s.cont = [.trySendSize, .endIf, .ret] ∧
    s.cons = .away :=
  ⟨_, runFrom_reachable _ _ .init [0,0,0,0,0] _ rfl, by decide⟩

example : ∀ o ∈ demo.writes, 0 ≤ o.n := by decide

/-- with no consumer at all every write still completes: the program without Close finishes -/
example : ∃ s, Reachable { demo with close := false } s ∧
    finished s = true ∧ s.recvd = [] ∧ s.size = 5 :=
  ⟨_, runFrom_reachable _ _ .init (List.replicate 24 0) _ rfl, by decide⟩

/-- Close really waits for the consumer: with the consumer away the producer is stuck exactly
    at Close's send (the second disjunct of `only_close_send_needs_consumer` is inhabited) -/
example : ∃ s, Reachable demo s ∧ finished s = false ∧ prodSteps s = [] ∧
    s.cont = [.sendSize, .closeStatus, .endIf] :=
  ⟨_, runFrom_reachable _ _ .init (List.replicate 26 0) _ rfl, by decide⟩

end Glb.C19
