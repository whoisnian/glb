/-
  C03b — C03 ("derived loggers are isolated", `with_is_prepend`) tied to the BYTE-EXACT handler
  models.  C03 proves isolation over Go slices on a heap for an abstract `Renderer`; C01 / C13 and
  `Model/NanoHandler.lean` are byte-exact pure models of the three handlers.  Here:

  (A) the handler-boundary laws with the REAL renderers, for each of JSON / Text / Nano:
        `handle (withAttrs h as) r = handle h { r with attrs := as ++ r.attrs }`      (`*_with_law`)
        `handle (withGroup h g) r  = handle h { r with attrs := [group g r.attrs] }`  (`*_group_law`)
      as equalities of `Except GoPanic Bytes` (same bytes, or the same level-table panic).
      INVARIANT NEEDED ON `h`: NONE.  Both laws hold for every handler state whatsoever (any `pre`,
      `nOpenGroups`, `addSep`, `groupPrefix`), in particular for every state reachable by a derivation
      chain; for every attribute list (empty, or made only of empty inline groups) and every record.
      The only side condition is on the group NAME of the `withGroup` law: `g ≠ []` for JSON and
      Text (what `Logger.WithGroup` guarantees; `*_group_law_empty_name_fails` are witnesses that
      the handler METHOD called with "" does break it); none for Nano.
  (B) each model is an instance of C03's `Renderer` interface (`*_renderer_instance`; `XSound R`
      = "R renders like model X, in whatever chunks"), C03's alias-free reference `renderChain` is
      the pure model state (`*_heap_state`), and therefore, for every derivation history over the
      slice heap, the line logged through a handle is `Model.handle` applied to the pure state of
      that handle's own chain (`*_history_line`).
  (C) the pinned JSON separator logic: it SATISFIES the byte law `json_with_law` (both sides run the same
      loop and are wrong in the same way: `pinned_satisfies_with_law`, for all inputs), so no
      witness against `json_with_law` exists for `as = [group "" []]`.  What it violates is the corollary
      that attributes rendering to nothing are a no-op (`json_hollow_noop` for the repaired logic,
      `pinned_violates_hollow_noop` is the `decide`d witness for `as = [group "" []]`) — which is
      what "as if passed at the call site" means above the handler boundary, because slog's
      `Record.AddAttrs` drops empty groups at the call site and `With` does not.

  Only theorems and non-vacuity examples here; lemmas are in Glb/Proofs/RendererInst.lean.
-/
import Glb.Proofs.RendererInst
import Glb.Props.C03
import Glb.Props.C01

namespace Glb.C03b
open Glb Glb.Derive Glb.RendererInst

/-! ## JSON -/

/-- the byte-exact JSON model is an instance of C03's `Renderer` interface -/
theorem json_renderer_instance : JsonSound jsonR := ⟨fun _ _ _ => by simp [jsonR], fun _ _ => by simp [jsonR]⟩

/-- **JSON `with_is_prepend`, byte-exact.**  Every handler state, every attribute list, every
    record, source on or off. -/
theorem json_with_law (addSource : Bool) (h : JsonHandler.H) (as : List JsonHandler.Attr)
    (r : JsonHandler.Rec) :
    JsonHandler.handle addSource (JsonHandler.withAttrs h as) r =
      JsonHandler.handle addSource h { r with attrs := as ++ r.attrs } := by
  -- C03's law for `lineOf` / `pureStep`, read through `json_lineOf` and `json_pureStep`
  simp only [json_lineOf jsonR json_renderer_instance, jsonHeader_attrs,
    ← C03.with_is_prepend_pure jsonR (jsonView h) as r.attrs, json_pureStep jsonR json_renderer_instance]
  rfl

/-- **JSON `WithGroup` = nested object**, byte-exact, every handler state. -/
theorem json_group_law (addSource : Bool) (h : JsonHandler.H) (g : Bytes) (r : JsonHandler.Rec)
    (hg : g ≠ []) :
    JsonHandler.handle addSource (JsonHandler.withGroup h g) r =
      JsonHandler.handle addSource h { r with attrs := [.group g r.attrs] } := by
  rw [json_handle_eq, json_handle_eq, json_withGroup_eq]
  simp only [jsonTail, (jBytes_group g r.attrs h.addSep hg).1, List.replicate_succ,
    List.append_assoc, List.cons_append, List.nil_append]
  rfl

example : ([0x67] : Bytes) ≠ [] := by decide

/-- the side condition of `json_group_law` is needed: the handler METHOD called with the empty name
    opens an object `"":{`, an attribute group with the empty key is inline -/
theorem json_group_law_empty_name_fails :
    (JsonHandler.handle false (JsonHandler.withGroup .init [])
        { time := [0x54], level := 4, msg := [0x6D], attrs := [.leaf [0x6B] (.num [0x31])] }).toOption ≠
    (JsonHandler.handle false .init
        { time := [0x54], level := 4, msg := [0x6D],
          attrs := [.group [] [.leaf [0x6B] (.num [0x31])]] }).toOption := by decide

/-- attributes that render to nothing (inline groups with only such members, e.g. `Group("")`)
    leave the handler state — hence every later line — unchanged -/
theorem json_hollow_noop (h : JsonHandler.H) (as : List JsonHandler.Attr) (ha : hollowL as = true) :
    JsonHandler.withAttrs h as = h := by
  simp [JsonHandler.withAttrs, hollow_loop as ha]

example : hollowL [.group [] [], .group [] [.group [] []]] = true := by decide

/-- the pinned logic satisfies the byte law: `WithAttrs(as)` then the record loop over `bs` writes
    what the record loop over `as ++ bs` writes, for every state, `as`, `bs` -/
theorem pinned_satisfies_with_law (st : Bytes × Bool) (as bs : List JsonHandler.Attr) :
    JsonHandler.Pinned.attrLoop (pinnedWith st as).1 bs (pinnedWith st as).2 =
      JsonHandler.Pinned.attrLoop st.1 (as ++ bs) st.2 := by
  rw [pinned_loop_append]
  unfold pinnedWith
  cases as <;> simp [JsonHandler.Pinned.attrLoop]

/-- … what the pinned logic violates is `json_hollow_noop`: `With(Group(""))` changes the line
    (`,,"k":1}` instead of `,"k":1}`) -/
theorem pinned_violates_hollow_noop :
    JsonHandler.Pinned.line C01.pinnedHead [.group [] []] [.leaf [0x6B] (.num [0x31])] ≠
      JsonHandler.Pinned.line C01.pinnedHead [] [.leaf [0x6B] (.num [0x31])] := by decide

/-- **heap state = pure model state.**  In every history over the slice heap (any growth policy,
    any sound chunking), at every later point, what a handle's `preformatted` slice and shape
    fields read is the state of the pure JSON model after the handle's own chain. -/
theorem json_heap_state (R : Renderer JsonHandler.Attr) (hR : JsonSound R) (g : Policy)
    (ops more : List (HOp JsonHandler.Attr)) (i : Nat) (h : Derive.Handler)
    (chain : List (DOp JsonHandler.Attr))
    (hi : (run R true g .json ops).forest[i]? = some (h, chain)) :
    h.view (run R true g .json (ops ++ more)).heap =
      jsonView (JsonHandler.deriveAll .init (chain.map jsonOp)) := by
  rw [(C03.isolation R g .json ops more i h chain hi).2, json_renderChain R hR]

/-- **every logged line is `JsonHandler.handle` of the pure chain state.** -/
theorem json_history_line (R : Renderer JsonHandler.Attr) (hR : JsonSound R) (g : Policy)
    (ops : List (HOp JsonHandler.Attr)) (e : Logged JsonHandler.Attr)
    (he : e ∈ (run R true g .json ops).out) :
    ∃ (h : Derive.Handler) (chain : List (DOp JsonHandler.Attr)),
      (run R true g .json ops).forest[e.handle]? = some (h, chain) ∧
      ∀ (addSource : Bool) (r : JsonHandler.Rec),
        jsonHeader addSource r = .ok e.hd → r.attrs = e.attrs →
        JsonHandler.handle addSource (JsonHandler.deriveAll .init (chain.map jsonOp)) r = .ok e.line := by
  obtain ⟨h, chain, h1, h2⟩ := C03.logged_lines_depend_on_own_chain R g .json ops e he
  refine ⟨h, chain, h1, ?_⟩
  intro addSource r hh ha
  rw [json_lineOf R hR, hh, h2, json_renderChain R hR, ha]
  rfl

/-! ### non-vacuity (JSON) -/

def jRec : JsonHandler.Rec :=
  { time := [0x54], level := 4, msg := [0x6D], attrs := [.leaf [0x6B] (.num [0x31])] }

/-- `{"time":"T","level":"INFO","msg":"m"` -/
def jHd : Bytes :=
  [0x7B, 0x22, 0x74, 0x69, 0x6D, 0x65, 0x22, 0x3A, 0x22, 0x54, 0x22, 0x2C, 0x22, 0x6C, 0x65, 0x76, 0x65, 0x6C,
   0x22, 0x3A, 0x22, 0x49, 0x4E, 0x46, 0x4F, 0x22, 0x2C, 0x22, 0x6D, 0x73, 0x67, 0x22, 0x3A, 0x22, 0x6D, 0x22]

example : jsonHeader false jRec = .ok jHd := by rfl

/-- root ─With(Group(""))→ 1 ─WithGroup("g")→ 2 ─With(a=1, Group(""))→ 3, a sibling 4 of 3 that
    appends into what would be 3's spare capacity, logs through 3 and 2 -/
def jOps : List (HOp JsonHandler.Attr) :=
  [ .derive 0 (.withAttrs [.group [] []]),
    .derive 1 (.withGroup [0x67]),
    .derive 2 (.withAttrs [.leaf [0x61] (.num [0x31]), .group [] []]),
    .derive 2 (.withAttrs [.leaf [0x62] (.num [0x32])]),
    .log 3 jHd jRec.attrs,
    .log 2 jHd jRec.attrs ]

/-- `{"time":"T","level":"INFO","msg":"m","g":{"a":1,"k":1}}\n` and `…,"g":{"k":1}}\n` -/
example : (run jsonR true goPolicy .json jOps).out.map (·.line) =
    [ jHd ++ [0x2C, 0x22, 0x67, 0x22, 0x3A, 0x7B, 0x22, 0x61, 0x22, 0x3A, 0x31, 0x2C, 0x22, 0x6B, 0x22, 0x3A, 0x31,
              0x7D, 0x7D, 0x0A],
      jHd ++ [0x2C, 0x22, 0x67, 0x22, 0x3A, 0x7B, 0x22, 0x6B, 0x22, 0x3A, 0x31, 0x7D, 0x7D, 0x0A] ] := by decide

/-! ## Text -/

theorem text_renderer_instance (P : TextHandler.Std) : TextSound P (textR P) := ⟨fun _ _ => by simp [textR]⟩

/-- **Text `with_is_prepend`, byte-exact**: every handler state, attribute list, record. -/
theorem text_with_law (P : TextHandler.Std) (addSource : Bool) (h : TextHandler.Handler)
    (as : List TextHandler.Attr) (r : TextHandler.Record) :
    TextHandler.handle P addSource (TextHandler.withAttrs P h as) r =
      TextHandler.handle P addSource h { r with attrs := as ++ r.attrs } := by
  simp only [text_lineOf P (textR P) (text_renderer_instance P), textHeader_attrs,
    ← C03.with_is_prepend_pure (textR P) (textView h) as r.attrs, text_pureStep P (textR P) (text_renderer_instance P)]
  rfl

/-- **Text `WithGroup` = dotted prefix**, byte-exact, every handler state. -/
theorem text_group_law (P : TextHandler.Std) (addSource : Bool) (h : TextHandler.Handler) (g : Bytes)
    (r : TextHandler.Record) (hg : g ≠ []) :
    TextHandler.handle P addSource (TextHandler.withGroup h g) r =
      TextHandler.handle P addSource h { r with attrs := [.group g r.attrs] } := by
  rw [text_handle_eq, text_handle_eq, text_withGroup_eq]
  simp only [tBytes_group P h.groupPrefix g r.attrs hg]
  rfl

/-- with no group prefix in force the empty name is harmless as well (`WithGroup("")` on a root) -/
theorem text_group_law_root (P : TextHandler.Std) (addSource : Bool) (h : TextHandler.Handler)
    (r : TextHandler.Record) (hp : h.groupPrefix = []) :
    TextHandler.handle P addSource (TextHandler.withGroup h []) r =
      TextHandler.handle P addSource h { r with attrs := [.group [] r.attrs] } := by
  rw [text_handle_eq, text_handle_eq, text_withGroup_eq]
  simp only [tBytes_inline, hp, joinPrefix]
  rfl

/-- a `Std` for closed examples -/
def P0 : TextHandler.Std := { isSpace := fun _ => false, isPrint := fun _ => true, quote := fun s => s }

/-- the side condition of `text_group_law` is needed: under prefix `p` the handler METHOD called
    with "" yields `p..k`, an inline group yields `p.k` -/
theorem text_group_law_empty_name_fails :
    (TextHandler.handle P0 false (TextHandler.withGroup { groupPrefix := [0x70] } [])
        { time := [0x54], level := 4, file := [], line := [0x30], msg := [0x6D],
          attrs := [.leaf [0x6B] (.raw .int64 [0x31])] }).toOption ≠
    (TextHandler.handle P0 false { groupPrefix := [0x70] }
        { time := [0x54], level := 4, file := [], line := [0x30], msg := [0x6D],
          attrs := [.group [] [.leaf [0x6B] (.raw .int64 [0x31])]] }).toOption := by decide

theorem text_heap_state (P : TextHandler.Std) (R : Renderer TextHandler.Attr) (hR : TextSound P R)
    (g : Policy) (ops more : List (HOp TextHandler.Attr)) (i : Nat) (h : Derive.Handler)
    (chain : List (DOp TextHandler.Attr))
    (hi : (run R true g .text ops).forest[i]? = some (h, chain)) :
    h.view (run R true g .text (ops ++ more)).heap =
      textView (TextHandler.derive P (chain.map textOp)) := by
  rw [(C03.isolation R g .text ops more i h chain hi).2, text_renderChain P R hR]

/-- **every logged line is `TextHandler.handle` of the pure chain state.** -/
theorem text_history_line (P : TextHandler.Std) (R : Renderer TextHandler.Attr) (hR : TextSound P R)
    (g : Policy) (ops : List (HOp TextHandler.Attr)) (e : Logged TextHandler.Attr)
    (he : e ∈ (run R true g .text ops).out) :
    ∃ (h : Derive.Handler) (chain : List (DOp TextHandler.Attr)),
      (run R true g .text ops).forest[e.handle]? = some (h, chain) ∧
      ∀ (addSource : Bool) (r : TextHandler.Record),
        textHeader P addSource r = .ok e.hd → r.attrs = e.attrs →
        TextHandler.handle P addSource (TextHandler.derive P (chain.map textOp)) r = .ok e.line := by
  obtain ⟨h, chain, h1, h2⟩ := C03.logged_lines_depend_on_own_chain R g .text ops e he
  refine ⟨h, chain, h1, ?_⟩
  intro addSource r hh ha
  rw [text_lineOf P R hR, hh, h2, text_renderChain P R hR, ha]
  rfl

/-! ### non-vacuity (Text) -/

def tRec : TextHandler.Record :=
  { time := [0x54], level := 4, file := [], line := [0x30], msg := [0x6D],
    attrs := [.leaf [0x6B] (.raw .int64 [0x31])] }

/-- `time=T level=INFO msg=m` -/
def tHd : Bytes :=
  [0x74, 0x69, 0x6D, 0x65, 0x3D, 0x54, 0x20, 0x6C, 0x65, 0x76, 0x65, 0x6C, 0x3D, 0x49, 0x4E, 0x46, 0x4F, 0x20,
   0x6D, 0x73, 0x67, 0x3D, 0x6D]

example : textHeader P0 false tRec = .ok tHd := by rfl

def tOps : List (HOp TextHandler.Attr) :=
  [ .derive 0 (.withAttrs [.leaf [0x61] (.raw .int64 [0x31])]),
    .derive 1 (.withGroup [0x67]),
    .derive 2 (.withAttrs [.group [0x68] [.leaf [0x62] (.raw .int64 [0x32])], .group [] []]),
    .derive 2 (.withAttrs [.leaf [0x63] (.raw .int64 [0x33])]),
    .log 3 tHd tRec.attrs ]

/-- `time=T level=INFO msg=m a=1 g.h.b=2 g.k=1\n` -/
example : (run (textR P0) true goPolicy .text tOps).out.map (·.line) =
    [ tHd ++ [0x20, 0x61, 0x3D, 0x31, 0x20, 0x67, 0x2E, 0x68, 0x2E, 0x62, 0x3D, 0x32, 0x20, 0x67, 0x2E, 0x6B,
              0x3D, 0x31, 0x0A] ] := by decide

/-! ## Nano -/

theorem nano_renderer_instance : NanoSound nanoR := ⟨fun _ => by simp [nanoR]⟩

/-- **Nano `with_is_prepend`, byte-exact**: every handler state, attribute list, record. -/
theorem nano_with_law (addSource : Bool) (h : NanoHandler.H) (as : List NanoHandler.Attr)
    (r : NanoHandler.Rec) :
    NanoHandler.handle addSource (NanoHandler.withAttrs h as) r =
      NanoHandler.handle addSource h { r with attrs := as ++ r.attrs } := by
  simp only [nano_lineOf nanoR nano_renderer_instance, nanoHeader_attrs,
    ← C03.with_is_prepend_pure nanoR (nanoView h) as r.attrs, nano_pureStep nanoR nano_renderer_instance]
  rfl

/-- **Nano `WithGroup`**: the line is unchanged, and (groups are flattened, keys ignored) it is also
    the line of the record with its attributes wrapped in the group — any name. -/
theorem nano_group_law (addSource : Bool) (h : NanoHandler.H) (g : Bytes) (r : NanoHandler.Rec) :
    NanoHandler.handle addSource (NanoHandler.withGroup h g) r = NanoHandler.handle addSource h r ∧
    NanoHandler.handle addSource (NanoHandler.withGroup h g) r =
      NanoHandler.handle addSource h { r with attrs := [.group g r.attrs] } := by
  refine ⟨rfl, ?_⟩
  rw [nano_handle_eq, nano_handle_eq]
  simp only [nBytes_group, NanoHandler.withGroup]
  rfl

theorem nano_heap_state (R : Renderer NanoHandler.Attr) (hR : NanoSound R) (g : Policy)
    (ops more : List (HOp NanoHandler.Attr)) (i : Nat) (h : Derive.Handler)
    (chain : List (DOp NanoHandler.Attr))
    (hi : (run R true g .nano ops).forest[i]? = some (h, chain)) :
    h.view (run R true g .nano (ops ++ more)).heap =
      nanoView (NanoHandler.deriveAll .init (chain.map nanoOp)) := by
  rw [(C03.isolation R g .nano ops more i h chain hi).2, nano_renderChain R hR]

/-- **every logged line is `NanoHandler.handle` of the pure chain state.** -/
theorem nano_history_line (R : Renderer NanoHandler.Attr) (hR : NanoSound R) (g : Policy)
    (ops : List (HOp NanoHandler.Attr)) (e : Logged NanoHandler.Attr)
    (he : e ∈ (run R true g .nano ops).out) :
    ∃ (h : Derive.Handler) (chain : List (DOp NanoHandler.Attr)),
      (run R true g .nano ops).forest[e.handle]? = some (h, chain) ∧
      ∀ (addSource : Bool) (r : NanoHandler.Rec),
        nanoHeader addSource r = .ok e.hd → r.attrs = e.attrs →
        NanoHandler.handle addSource (NanoHandler.deriveAll .init (chain.map nanoOp)) r = .ok e.line := by
  obtain ⟨h, chain, h1, h2⟩ := C03.logged_lines_depend_on_own_chain R g .nano ops e he
  refine ⟨h, chain, h1, ?_⟩
  intro addSource r hh ha
  rw [nano_lineOf R hR, hh, h2, nano_renderChain R hR, ha]
  rfl

/-! ### non-vacuity (Nano) -/

def nRec : NanoHandler.Rec :=
  { time := [0x54], level := 4, msg := [0x6D], attrs := [.leaf [0x6B] (.raw [0x31])] }

/-- `T [I] m` -/
def nHd : Bytes := [0x54, 0x20, 0x5B, 0x49, 0x5D, 0x20, 0x6D]

example : nanoHeader true nRec = .ok nHd := by rfl

def nOps : List (HOp NanoHandler.Attr) :=
  [ .derive 0 (.withAttrs [.leaf [0x61] (.str [0x78])]),
    .derive 1 (.withGroup [0x67]),
    .derive 1 (.withAttrs [.group [0x68] [.leaf [0x62] (.any [0x79])], .group [] []]),
    .derive 1 (.withAttrs [.leaf [0x63] (.ansi [0x7A])]),
    .log 3 nHd nRec.attrs ]

/-- `T [I] m x y 1\n` -/
example : (run nanoR true goPolicy .nano nOps).out.map (·.line) =
    [ nHd ++ [0x20, 0x78, 0x20, 0x79, 0x20, 0x31, 0x0A] ] := by decide

end Glb.C03b
