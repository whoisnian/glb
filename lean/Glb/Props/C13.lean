/-
  C13 — Text handler lines parse back unambiguously; values cannot forge fields or lines.

  Only the property theorems and their non-vacuity examples live here; helper lemmas are in
  Glb/Proofs/TextHandler.lean, the model in Glb/Model/TextHandler.lean, the specification (an
  executable tokenizer and the expected key/value list) in Glb/Spec/TextTokens.lean and
  Glb/Spec/TextExpected.lean.

  Parameters (standard library, modelled not verified): `unicode.IsSpace`, `unicode.IsPrint`,
  `strconv.Quote` (`Std`) and `strconv.Unquote`.  The only assumptions are the explicit hypotheses
  `QuoteContract quote unquote` and "text the stdlib renders for numbers / durations / times is a
  bare token"; nothing is assumed about messages, keys, group names or string values.
  `Glb/Props/C13b.lean` discharges the first hypothesis for the transcription of the real
  `strconv.Quote` / `strconv.Unquote` (`text_roundtrip_go`, `one_line_go`).
-/
import Glb.Proofs.TextHandler

namespace Glb.C13
open Glb Glb.TextTokens Glb.TextHandler Glb.TextExpected Glb.TextProofs

/-- Non-vacuity of the contract: quoting every byte as `\xNN` (which `strconv.Unquote` also accepts)
    satisfies it. -/
theorem xQuote_contract : QuoteContract xQuote xUnquote where
  shape s := ⟨xBody s, rfl, xBody_interior s⟩
  roundtrip s := by simp [xQuote, xUnquote, xDecode_xBody]
  empty := by decide

/-- **bare_is_safe.**  Whenever `appendTextString` writes a string as it stands, the string is
    non-empty and lies in exactly the class of bare tokens of the specification tokenizer: only
    bare runes — no ASCII byte ≤ 0x20, no '=', no '"', no ill-formed UTF-8, no `IsSpace` rune, no rune
    that is not `IsPrint`.  For ALL byte strings. -/
theorem bare_is_safe (P : Std) (unquote : Bytes → Option Bytes) (s : Bytes)
    (h : quotes P s = false) : bareTok (lexOf P unquote) s :=
  quotes_false_bareTok P unquote s h

/-- `quotes` is the decision `appendTextString` takes -/
theorem appendTextString_cases (P : Std) (buf s : Bytes) :
    appendTextString P buf s =
      if quotes P s then (if s = [] then buf ++ [0x22, 0x22] else buf ++ P.quote s) else buf ++ s :=
  appendTextString_eq P buf s

/-- byte-level reading of `bare_is_safe`, independent of the Unicode parameters: a string written
    bare contains no control byte, space, '=' or '"' at all (continuation bytes included). -/
theorem bare_no_separator (P : Std) (s : Bytes) (h : quotes P s = false) :
    s ≠ [] ∧ ∀ b ∈ s, 0x20 < b ∧ b ≠ 0x3d ∧ b ≠ 0x22 := by
  have hb := bare_is_safe P (fun _ => none) s h
  exact ⟨hb.1, allBare_bytes _ s hb.2⟩

/-- the rune-level content of the bare class, spelled out: at every rune boundary of a string written
    bare the decoder yields a well-formed rune that is not `IsSpace` and is `IsPrint` (or a bare ASCII
    byte).  `bareRuneLen … = some n` unfolds to exactly that. -/
theorem bare_runes (P : Std) (unquote : Bytes → Option Bytes) (b : UInt8) (rest : Bytes)
    (h : allBare (lexOf P unquote) 0 (b :: rest) = true) :
    (b < 0x80 ∧ bareAscii b = true) ∨
    (¬ b < 0x80 ∧ 2 ≤ (Utf8.decodeRune (b :: rest)).2 ∧ P.isSpace (Utf8.decodeRune (b :: rest)).1 = false
      ∧ P.isPrint (Utf8.decodeRune (b :: rest)).1 = true) := by
  simp only [allBare] at h
  split at h
  · cases h
  · rename_i n hn
    rcases bareRuneLen_some.mp hn with ⟨hb, ha, _⟩ | ⟨hb, h2, rfl, hs, hp⟩
    · exact .inl ⟨hb, ha⟩
    · exact .inr ⟨hb, h2, hs, hp⟩

/-- **text_roundtrip.**  For every derivation chain (any list of `WithAttrs` / `WithGroup`), every
    record, source on or off and each of the five levels, `Handle` does not panic and the line it
    writes is split by the specification tokenizer into exactly

        time, level, (source)?, msg, then every attribute leaf with its dotted path and value text,

    in order and nothing else — so no message, key, group name or value can add a token or a line
    break.  Hypotheses: the strconv contract, and that the text the standard library renders for the
    time and for numeric / bool / duration / time values is a bare token.  Messages, keys, group
    names, string values, marshalled text, error text are arbitrary byte strings. -/
theorem text_roundtrip (P : Std) (unquote : Bytes → Option Bytes) (hq : QuoteContract P.quote unquote)
    (addSource : Bool) (chain : List Op) (r : Record)
    (hl : validLevel r.level)
    (ht : bareTok (lexOf P unquote) r.time)
    (hraw : ∀ e ∈ flat chain r, leafOK (lexOf P unquote) e.2) :
    ∃ line, handle P addSource (derive P chain) r = .ok line ∧
      tokenize (lexOf P unquote) line = some (expected addSource chain r) := by
  refine ⟨_, handle_render P addSource chain r hl, ?_⟩
  rw [tokenize_renderLine _ _ _ ⟨cell_bare _ (keys_bare _).1, cell_bare _ ht⟩
    (lineCells_good P unquote hq addSource chain r hraw)]
  exact congrArg some (lineCells_expected P addSource chain r)

/-- every line the specification tokenizer accepts is one line: it ends in '\n' and contains no
    other '\n' (sanity of the specification; makes `one_line` a corollary of the round trip) -/
theorem tokenize_one_line (L : Lex) (s : Bytes) (kvs : List (Bytes × Bytes))
    (h : tokenize L s = some kvs) : ∃ body, s = body ++ [0x0a] ∧ (0x0a : UInt8) ∉ body := by
  obtain ⟨body, e, hbody⟩ := pairs_one_line L _ s kvs h
  exact ⟨body, e, fun hm => absurd (hbody _ hm) (by decide)⟩

/-- **one_line.**  Under the hypotheses of `text_roundtrip` the output is exactly one line. -/
theorem one_line (P : Std) (unquote : Bytes → Option Bytes) (hq : QuoteContract P.quote unquote)
    (addSource : Bool) (chain : List Op) (r : Record)
    (hl : validLevel r.level)
    (ht : bareTok (lexOf P unquote) r.time)
    (hraw : ∀ e ∈ flat chain r, leafOK (lexOf P unquote) e.2) :
    ∃ body, handle P addSource (derive P chain) r = .ok (body ++ [0x0a]) ∧ (0x0a : UInt8) ∉ body := by
  obtain ⟨line, h1, h2⟩ := text_roundtrip P unquote hq addSource chain r hl ht hraw
  obtain ⟨body, hb, hn⟩ := tokenize_one_line _ line _ h2
  exact ⟨body, by rw [h1, hb], hn⟩

/-- when the first component is non-empty (e.g. every path under a `Logger.WithGroup`, which never
    passes an empty name), the dotted path is the plain '.'-join of the components -/
theorem dotted_eq_join (c : Bytes) (cs : List Bytes) (hc : c ≠ []) :
    dotted (c :: cs) = c ++ (cs.map fun x => 0x2e :: x).flatten :=
  -- `dotted (c :: cs)` unfolds to `cs.foldl dot (dot [] c)`, and `dot [] c` computes to `c`
  foldl_dot cs c hc

theorem dotted_single (k : Bytes) : dotted [k] = k := rfl

/-- the `source` token really is the caller's `dir/file.go:line`: a path `…/a/b` with slash-free `a`, `b`
    (any directory part, also empty) is trimmed to its last two components `a/b` -/
theorem trimSource_last_two (dir a b : Bytes) (ha : (0x2f : UInt8) ∉ a) (hb : (0x2f : UInt8) ∉ b) :
    trimSource (dir ++ 0x2f :: (a ++ 0x2f :: b)) = a ++ 0x2f :: b := by
  -- the scan passes `b`, the last '/', `a`, and then stops: at the second '/' or at the end of the path
  have scan : ∀ stop, (∀ acc, sourceScan stop true acc = acc) →
      sourceScan (b.reverse ++ 0x2f :: (a.reverse ++ stop)) false [] = a ++ 0x2f :: b := by
    intro stop hstop
    rw [sourceScan_noslash b _ _ _ hb]
    simp only [sourceScan, beq_self_eq_true, if_true, Bool.false_eq_true, if_false, List.append_nil]
    rw [sourceScan_noslash a _ _ _ ha, hstop]
  cases dir with
  | nil => simpa [trimSource] using scan [] (fun _ => rfl)
  | cons d ds => simpa [trimSource] using scan (0x2f :: ds.reverse) (fun _ => rfl)

/-- a concrete standard library: NBSP, NEL, LINE SEPARATOR are spaces, U+FEFF is not printable,
    quoting writes every byte as `\xNN` -/
def P0 : Std :=
  { isSpace := fun r => r == 0xA0 || r == 0x85 || r == 0x2028
    isPrint := fun r => !(r == 0xFEFF || r == 0x85 || r == 0x2028)
    quote := xQuote }

/-- `WithGroup("g").With(Group("", <empty>), "k", 1).WithGroup("h")` -/
def chain0 : List Op :=
  [.withGroup [0x67],
   .withAttrs [.group [] [], .leaf [0x6b] (.raw .int64 [0x31])],
   .withGroup [0x68]]

/-- message `\xff"\n =`; attributes: group "x" { "" = "a b", inline group { "y=z" = error "e\n" } },
    an empty group "e", a key that is U+00A0, a duration `1.5µs`, a panicking marshaler -/
def rec0 : Record :=
  { time := [0x32, 0x30, 0x32, 0x33, 0x2d, 0x30, 0x38, 0x2d, 0x31, 0x36, 0x54, 0x30, 0x30, 0x3a, 0x33,
             0x35, 0x3a, 0x31, 0x35, 0x2b, 0x30, 0x38, 0x3a, 0x30, 0x30]
    level := 4
    file := [0x2f, 0x61, 0x2f, 0x62, 0x2f, 0x63, 0x2e, 0x67, 0x6f]
    line := [0x37]
    msg := [0xff, 0x22, 0x0a, 0x20, 0x3d]
    attrs :=
      [.group [0x78] [.leaf [] (.str [0x61, 0x20, 0x62]),
                      .group [] [.leaf [0x79, 0x3d, 0x7a] (.via .error [0x65, 0x0a])]],
       .group [0x65] [],
       .leaf [0xc2, 0xa0] (.raw .duration [0x31, 0x2e, 0x35, 0xc2, 0xb5, 0x73]),
       .leaf [0x70] (.panicVal [0x62, 0x6f, 0x6f, 0x6d]),
       .leaf [0x5c, 0x7f] (.str [])] }

/-- the hypotheses of `text_roundtrip` / `one_line` are satisfiable together (hostile message and keys,
    empty and inline groups, two `WithGroup`s, source on) -/
example : ∃ line, handle P0 true (derive P0 chain0) rec0 = .ok line ∧
    tokenize (lexOf P0 xUnquote) line = some (expected true chain0 rec0) :=
  text_roundtrip P0 xUnquote xQuote_contract true chain0 rec0 (by decide) (by decide) (by decide)

/-- what the line of `chain0`, `rec0` decodes to: `g.k=1`, `g.h.x.=a b`, `g.h.x.y=z=e\n`, … -/
example : expected true chain0 rec0 =
    [(timeKey, rec0.time), (levelKey, [0x49, 0x4e, 0x46, 0x4f]),
     (sourceKey, [0x62, 0x2f, 0x63, 0x2e, 0x67, 0x6f, 0x3a, 0x37]),
     (msgKey, [0xff, 0x22, 0x0a, 0x20, 0x3d]),
     ([0x67, 0x2e, 0x6b], [0x31]),
     ([0x67, 0x2e, 0x68, 0x2e, 0x78, 0x2e], [0x61, 0x20, 0x62]),
     ([0x67, 0x2e, 0x68, 0x2e, 0x78, 0x2e, 0x79, 0x3d, 0x7a], [0x65, 0x0a]),
     ([0x67, 0x2e, 0x68, 0x2e, 0xc2, 0xa0], [0x31, 0x2e, 0x35, 0xc2, 0xb5, 0x73]),
     ([0x67, 0x2e, 0x68, 0x2e, 0x70], [0x21, 0x50, 0x41, 0x4e, 0x49, 0x43, 0x3a, 0x20, 0x62, 0x6f, 0x6f, 0x6d]),
     ([0x67, 0x2e, 0x68, 0x2e, 0x5c, 0x7f], [])] := by decide

/- `bare_is_safe` has instances: `a\b<DEL>é` is written bare, while each of: empty, space, '=', '"', a control
   byte, NBSP, U+FEFF, a genuine U+FFFD, a lone continuation byte, a truncated sequence is quoted -/
example : quotes P0 [0x61, 0x5c, 0x62, 0x7f, 0xc3, 0xa9] = false := by decide
example : ([[], [0x20], [0x3d], [0x22], [0x1f], [0xc2, 0xa0], [0xef, 0xbb, 0xbf], [0xef, 0xbf, 0xbd],
    [0x80], [0x61, 0xe2, 0x82]].map (quotes P0)).all id = true := by decide

/- the specification tokenizer discriminates: an unquoted space or '=' in a value would be seen -/
example : tokenize (lexOf P0 xUnquote) [0x6b, 0x3d, 0x61, 0x20, 0x62, 0x0a] = none := by decide
example : tokenize (lexOf P0 xUnquote) [0x6b, 0x3d, 0x61, 0x3d, 0x62, 0x0a] = none := by decide
example : tokenize (lexOf P0 xUnquote) [0x6b, 0x3d, 0x61, 0x20, 0x62, 0x3d, 0x63, 0x0a]
    = some [([0x6b], [0x61]), ([0x62], [0x63])] := by decide
example : tokenize (lexOf P0 xUnquote) [0x6b, 0x3d, 0x61, 0x0a, 0x6b, 0x3d, 0x61, 0x0a] = none := by decide

end Glb.C13
