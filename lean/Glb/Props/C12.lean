/-
  C12 — IPv4Filter is safe and consistent under concurrent updates and lookups.

  Concurrency model (tied to the source by Glb.Tie.FilterLock): every `Add`/`Remove` is ONE atomic
  step — either the atomic store of `matchAll` or the critical section under the writer lock —
  and `Contains` is TWO atomic steps: the unlocked atomic load of `matchAll`, then (only if that
  was false) the scan under the reader lock.  Any number of writer steps may happen before, between
  and after the two reader steps; that is every interleaving the locks allow.
-/
import Glb.Props.C11

namespace Glb.C12
open Glb.Filter Glb.C11

/-- a range covers an address -/
def covers (e : Addr × Nat) (ip : Addr) : Prop := ip &&& prefixMask e.2 = e.1

/-- result of a `Contains(ip)` call whose `matchAll` load happened in state `s1` and whose locked
    scan (if any) happened in the later state `s2` -/
def containsConc (s1 s2 : St) (ip : Addr) : Bool := s1.matchAll || scan s2 ip

/-- the states a lookup may see: `s1` after any prefix of the writers' steps, `s2` after more of them -/
structure Lookup (ls : Nat) (pre mid : List COp) where
  hpre : ∀ op ∈ pre, op.len ≤ 32
  hmid : ∀ op ∈ mid, op.len ≤ 32

def stateAt (ls : Nat) (ops : List COp) : St := crun ls ops

theorem crun_append (ls : Nat) (a b : List COp) : crun ls (a ++ b) = b.foldl (cstep ls) (crun ls a) := by
  simp [crun, List.foldl_append]

theorem Lookup.all {ls : Nat} {pre mid : List COp} (h : Lookup ls pre mid) :
    ∀ op ∈ pre ++ mid, op.len ≤ 32 := fun op ho =>
  (List.mem_append.1 ho).elim (h.hpre op) (h.hmid op)

/-- **soundness of a concurrent lookup**: if it returns true, some range covering the address was
    present at the moment of the load or at the moment of the scan — so an address that no range
    present at any time during the call covers gets `false`. -/
theorem lookup_sound (ls : Nat) (pre mid : List COp) (h : Lookup ls pre mid) (ip : Addr)
    (hr : containsConc (crun ls pre) (crun ls (pre ++ mid)) ip = true) :
    (∃ e ∈ specRun pre, covers e ip) ∨ (∃ e ∈ specRun (pre ++ mid), covers e ip) := by
  rw [containsConc, Bool.or_eq_true] at hr
  exact hr.imp
    (fun hr => (filter_refines_prefix_set ls pre h.hpre ip).1 (Bool.or_eq_true_iff.2 (.inl hr)))
    (fun hr => (filter_refines_prefix_set ls _ h.all ip).1 (Bool.or_eq_true_iff.2 (.inr hr)))

/-- **completeness of a concurrent lookup**: if one range covering the address is present both at
    the load and at the scan (in particular: present for the whole duration of the call), the
    lookup returns true. -/
theorem lookup_complete (ls : Nat) (pre mid : List COp) (h : Lookup ls pre mid) (ip : Addr)
    (e : Addr × Nat) (hc : covers e ip) (h1 : e ∈ specRun pre) (h2 : e ∈ specRun (pre ++ mid)) :
    containsConc (crun ls pre) (crun ls (pre ++ mid)) ip = true := by
  have r2 := rel_run ls h.all
  rw [containsConc, Bool.or_eq_true]
  -- `0.0.0.0/0` is seen by the load, any other range by the scan
  by_cases h0 : e = (0, 0)
  · exact Or.inl ((rel_run ls h.hpre).all.2 (h0 ▸ h1))
  · exact Or.inr ((scan_iff r2.wf ip).2 ⟨e, (r2.core e h0).2 h2, hc⟩)

/-! ### final agreement: membership of a key depends only on the operations touching that key -/

/-- the abstract key an operation touches -/
def opKey : COp → Addr × Nat
  | .add a n => (a &&& prefixMask n, n)
  | .remove a n => (a &&& prefixMask n, n)

theorem mem_specStep_of_ne (key : Addr × Nat) (S : PSet) (op : COp) (h : opKey op ≠ key) :
    key ∈ specStep S op ↔ key ∈ S := by
  cases op with
  | add a n => exact List.mem_cons.trans (or_iff_right (Ne.symm h))
  | remove a n =>
    rw [specStep, List.mem_filter, decide_eq_true_eq]
    exact and_iff_left (Ne.symm h)

/-- whether the key an operation touches is present afterwards does not depend on the set before -/
theorem mem_specStep_key (S S' : PSet) (op : COp) :
    opKey op ∈ specStep S op ↔ opKey op ∈ specStep S' op := by
  cases op with
  | add a n => exact iff_of_true List.mem_cons_self List.mem_cons_self
  | remove a n =>
    refine iff_of_false (fun h => ?_) (fun h => ?_) <;>
      exact of_decide_eq_true (List.mem_filter.1 h).2 rfl

theorem mem_foldl_specStep_filter (key : Addr × Nat) (ops : List COp) :
    ∀ S S' : PSet, (key ∈ S ↔ key ∈ S') →
      (key ∈ ops.foldl specStep S ↔ key ∈ (ops.filter fun o => opKey o = key).foldl specStep S') := by
  induction ops with
  | nil => exact fun _ _ h => h
  | cons op ops ih =>
    intro S S' h
    by_cases hk : opKey op = key
    · rw [List.filter_cons, if_pos (decide_eq_true hk)]
      exact ih _ _ (hk ▸ mem_specStep_key S S' op)
    · rw [List.filter_cons, if_neg (by rw [decide_eq_true_eq]; exact hk)]
      exact ih _ _ ((mem_specStep_of_ne key S op hk).trans h)

/-- membership of `key` after any run depends only on the subsequence of operations touching `key` -/
theorem specRun_mem_filter (key : Addr × Nat) (ops : List COp) :
    key ∈ specRun ops ↔ key ∈ specRun (ops.filter (fun o => opKey o = key)) :=
  mem_foldl_specStep_filter key ops [] [] Iff.rfl

/-- **final agreement.**  Let `ops1` be the order in which the writers' critical sections actually
    interleaved and `ops2` any other schedule of the same operations (e.g. writer after writer) such
    that for every key the operations touching it come in the same order — which is the case when
    each writer owns its ranges and issues its operations in program order.  Then, once updates
    stop, the filter answers every lookup as the prefix set of `ops2` does. -/
theorem final_agreement (ls : Nat) (ops1 ops2 : List COp)
    (h1 : ∀ op ∈ ops1, op.len ≤ 32)
    (hsame : ∀ key, ops1.filter (fun o => opKey o = key) = ops2.filter (fun o => opKey o = key))
    (ip : Addr) :
    containsAddr (crun ls ops1) ip = true ↔ specMem (specRun ops2) ip := by
  rw [filter_refines_prefix_set ls ops1 h1 ip]
  refine exists_congr fun e => and_congr_left fun _ => ?_
  rw [specRun_mem_filter, hsame, ← specRun_mem_filter]

/-- writers owning disjoint key sets: any interleaving that preserves each writer's program order
    has the per-key subsequences of the writer-after-writer schedule -/
theorem owned_keys_same_order (owner : COp → Nat) (keyOwner : Addr × Nat → Nat) (ops1 ops2 : List COp)
    (hown1 : ∀ o ∈ ops1, owner o = keyOwner (opKey o)) (hown2 : ∀ o ∈ ops2, owner o = keyOwner (opKey o))
    (hw : ∀ w, ops1.filter (fun o => owner o = w) = ops2.filter (fun o => owner o = w)) :
    ∀ key, ops1.filter (fun o => opKey o = key) = ops2.filter (fun o => opKey o = key) := by
  intro key
  -- the operations on `key` are those of its owner that touch `key`
  have owned : ∀ ops : List COp, (∀ o ∈ ops, owner o = keyOwner (opKey o)) →
      ops.filter (fun o => opKey o = key) =
        (ops.filter (fun o => owner o = keyOwner key)).filter (fun o => opKey o = key) := by
    intro ops hown
    rw [List.filter_filter]
    refine List.filter_congr fun o ho => ?_
    by_cases hk : opKey o = key
    · simp [hk, hown o ho]
    · simp [hk]
  rw [owned ops1 hown1, owned ops2 hown2, hw]

/-! ### non-vacuity -/

example : Lookup 2 [.add 0x0a000000#32 8] [.add 0 0, .remove 0x0a000000#32 8] := ⟨by decide, by decide⟩

example : containsConc (crun 2 [.add 0x0a000000#32 8])
    (crun 2 ([.add 0x0a000000#32 8] ++ [.add 0 0, .remove 0x0a000000#32 8])) 0x0a010203#32 = false := by
  decide

end Glb.C12
