/-
  C09 — Config sources obey priority: command line > environment > JSON > default.

  Model: Glb/Model/Config.lean (`newFlagSet`, `parse` interpreting the extracted step order,
         `parseTag`, `underscore`), Glb/Model/ArgParse.lean (`argParse`, C10).
  Only property theorems live here; helper lemmas are in Glb/Proofs/Config.lean.

  All theorems are for EVERY struct description (kinds, nesting, tags as arbitrary bytes), every
  argument vector, every environment `env : Bytes → Option Bytes` and every `World`, i.e. every
  behaviour of the standard-library functions the code calls (per-type text parsers, ToLower,
  file reading, base64, json.Unmarshal as an overlay of field writes).  Nothing is assumed of the
  world: the theorems have no hypotheses about it.
-/
import Glb.Proofs.Config
import Glb.Props.C10

namespace Glb.C09
open Glb.Config Glb.ArgParse

/-- "an empty textual value means the type's zero value" — for every kind -/
theorem empty_text_is_zero (W : World) (k : Kind) : setText W k [] = some (zeroOf W k) := by
  cases k <;> simp [setText, zeroOf]

/-- a string flag takes any text verbatim; for the other kinds a non-empty text is exactly what the
    type's parser makes of it -/
theorem text_reading (W : World) (k : Kind) (t : Bytes) :
    setText W .string t = some t ∧ (k ≠ .string → t ≠ [] → setText W k t = W.parseText k t) := by
  refine ⟨rfl, ?_⟩
  intro hk ht
  cases k <;> simp_all [setText]

/-- `parseStructFieldTag` never indexes out of range, whatever the tag bytes -/
theorem parseTag_never_panics (lower : Bytes → Bytes) (goName tag : Bytes) :
    ∃ r, parseTag lower goName tag = .ok r :=
  ⟨_, parseTag_eq lower goName tag⟩

/-- Both tag syntaxes yield (name, default, usage) as documented:
    `name,default,usage` and `|name|default|usage`, where the name and the default do not contain
    the separator (and, for the comma syntax, the tag does not start with '|'); further separators
    belong to the usage text; an empty name means the lower-cased field name; shorter tags leave
    the missing parts empty. -/
theorem tag_syntaxes (lower : Bytes → Bytes) (goName name dflt usage : Bytes) :
    let nm := if name = [] then lower goName else name
    (comma ∉ name → comma ∉ dflt → name.head? ≠ some bar →
      parseTag lower goName (name ++ comma :: (dflt ++ comma :: usage)) = .ok (nm, dflt, usage)) ∧
    (bar ∉ name → bar ∉ dflt →
      parseTag lower goName (bar :: (name ++ bar :: (dflt ++ bar :: usage))) = .ok (nm, dflt, usage)) ∧
    (comma ∉ name → comma ∉ dflt → name.head? ≠ some bar →
      parseTag lower goName (name ++ comma :: dflt) = .ok (nm, dflt, [])) ∧
    (bar ∉ name → bar ∉ dflt →
      parseTag lower goName (bar :: (name ++ bar :: dflt)) = .ok (nm, dflt, [])) ∧
    (comma ∉ name → name.head? ≠ some bar → parseTag lower goName name = .ok (nm, [], [])) ∧
    (bar ∉ name → parseTag lower goName (bar :: name) = .ok (nm, [], [])) := by
  dsimp only
  have hhead (tl : Bytes) (h : name.head? ≠ some bar) : (name ++ comma :: tl).head? ≠ some bar := by
    cases name with
    | nil => show some comma ≠ some bar; decide
    | cons c t => exact h
  -- `parseTag_eq`: the tag is cut twice at its separator; each cut is `cut_append`, or `cut_none` where a part is missing
  refine ⟨?_, ?_, ?_, ?_, ?_, ?_⟩ <;> intros <;>
    simp only [parseTag_eq, List.head?_cons, if_true, if_false, List.drop_succ_cons, List.drop_zero,
      cut_append, cut_none, List.not_mem_nil, ne_eq, not_false_eq_true, *]

/-- `Underscore` (the loop with its `last` state and its `len(buf) > 0` tests) equals the
    three-byte-window specification `snake`: separators vanish, letters are re-cased, digits kept,
    and `_` is written — once something has been written — in front of a byte that follows a
    separator, of an upper-case letter that follows a lower-case one (`aB → a_B`) and of an
    upper-case letter that is followed by a lower-case one (`ABc → A_Bc`). -/
theorem env_key (s : Bytes) (upper : Bool) : underscore s upper = snake upper none false s :=
  underscoreGo_eq_snake upper s none false (fun _ => rfl)

/-- an environment key consists of `A–Z`, `0–9` and `_` only -/
theorem env_key_charset (s : Bytes) :
    ∀ b ∈ underscore s true, isUpper b = true ∨ isDigit b = true ∨ b = underscoreByte := by
  rw [env_key]; exact snake_upper_charset s none false

/-- every key of a struct flag is `CFG` followed by the snake form of group path + field name as
    it continues after the separator `_` of the prefix -/
theorem env_key_prefix (rest : Bytes) :
    underscore (Generated.envKeyPrefix ++ rest) true =
      [0x43, 0x46, 0x47] ++ underscoreGo true .notAlphanum true rest := by
  simp [underscore, Generated.envKeyPrefix, underscoreGo, isLower, isUpper, isDigit]

/-- What `NewFlagSet` builds: the two built-ins followed by one flag per leaf of the struct, in
    depth-first order; each flag has the name / default / usage of its tag, the key
    `Underscore("CFG_" + group + fieldName, upper)`, and its field holds the parsed default. -/
theorem flagset_shape (W : World) (fields : List Field) (flags : List Flag)
    (h : newFlagSet W fields = .ok flags) :
    ∃ extra, flags = builtins W ++ extra ∧ AllPairs (LeafFlag W) (flattenFields [] fields) extra :=
  (addLeaves_ok W _ _ _ h).imp fun _ h => ⟨h.1, h.2.1⟩

/-- the names `NewFlagSet` accepts are pairwise different, never start with '-' and never contain
    '=' (the guard C10's `name_guard` relies on) -/
theorem flag_names_guarded (W : World) (fields : List Field) (flags : List Flag)
    (h : newFlagSet W fields = .ok flags) :
    (flags.map (·.name)).Nodup ∧ ∀ f ∈ flags, f.name.head? ≠ some dash ∧ equals ∉ f.name := by
  obtain ⟨extra, rfl, h2, h3⟩ := addLeaves_ok W _ _ _ h
  refine ⟨h3 (by simp [builtins]; decide),
    List.forall_mem_append.2 ⟨by simp [builtins]; decide, fun f he => ?_⟩⟩
  obtain ⟨_, _, _, _, _, _, g1, g2, _, rfl⟩ := h2.exists_of_mem he
  exact ⟨g1, g2⟩

/-- PRIORITY.  If `Parse` succeeds then the command line was grammatical (C10), the JSON carrier —
    the file named by `-config` on the command line, else `CFG_CONFIG_B64`, else nothing — was
    readable, and EVERY flag `f` (position `i`) ends up holding

        the command-line text, if the flag has one,   read by the type's parser ("" = zero value)
        else the text of its environment variable      read the same way
        else the value JSON wrote into the field
        else what the field held before, i.e. the parsed tag default (`flagset_shape`).

    A source that is silent about a field plays no role for it. -/
theorem priority (W : World) (fields : List Field) (flags : List Flag) (argv : List Bytes)
    (env : Bytes → Option Bytes) (out : PSt)
    (hfs : newFlagSet W fields = .ok flags) (h : parse W flags argv env = .ok out) :
    ∃ as ov,
      argParse (lookupFlag flags) argv = .ok (.ok ⟨as, out.args⟩) ∧
      carrierOverlay W env (cliPath as) = some ov ∧
      ∀ i f, flags[i]? = some f →
        ∃ g, out.flags[i]? = some g ∧ g.name = f.name ∧
          expected W f.kind (effective as f.name) (envOf env f) (jsonValue ov i) f.val = some g.val := by
  obtain ⟨r, ha, v⟩ := parse_outcome W env fields flags argv hfs
  rw [h] at v
  cases v with
  | ok hc hv => exact ⟨_, _, ha, hc, hv⟩

/-- SUCCESS, EXACTLY.  `Parse` succeeds iff (1) the argument vector is grammatical, (2) the JSON
    carrier, if there is one, is readable and valid, and (3) for every flag the EFFECTIVE text —
    the command-line text if there is one, else the environment text — is readable for its type.
    In particular an unreadable environment value that is shadowed by a command-line value is not
    an error, and neither is an unreadable JSON-shadowed default (defaults were read by
    `NewFlagSet`). -/
theorem parse_ok_iff (W : World) (fields : List Field) (flags : List Flag) (argv : List Bytes)
    (env : Bytes → Option Bytes) (hfs : newFlagSet W fields = .ok flags) :
    (∃ out, parse W flags argv env = .ok out) ↔
      ∃ as rest, argParse (lookupFlag flags) argv = .ok (.ok ⟨as, rest⟩) ∧
        carrierOverlay W env (cliPath as) ≠ none ∧
        ∀ f ∈ flags, ∀ t, effectiveText (effective as f.name) (envOf env f) = some t →
          setText W f.kind t ≠ none := by
  obtain ⟨r, ha, v⟩ := parse_outcome W env fields flags argv hfs
  generalize parse W flags argv env = res at v ⊢
  rw [ha]
  cases v with
  | arg e s => simp
  | carrier hc =>
    refine ⟨nofun, ?_⟩
    rintro ⟨_, _, h, hne, _⟩
    cases h
    exact absurd hc hne
  | badValue hc hf ht hs =>
    refine ⟨nofun, ?_⟩
    rintro ⟨_, _, h, _, hcond⟩
    cases h
    exact absurd hs (hcond _ hf _ ht)
  | ok hc hv =>
    refine ⟨fun _ => ⟨_, _, rfl, by simp [hc], ?_⟩, fun _ => ⟨_, rfl⟩⟩
    intro f hf t ht
    obtain ⟨i, hi⟩ := List.getElem?_of_mem hf
    obtain ⟨g, _, _, hg⟩ := hv i f hi
    rw [expected_eq, ht] at hg
    simp [hg]

/-- `Parse` never panics and never meets a step the extractor could not interpret. -/
theorem parse_never_panics (W : World) (fields : List Field) (flags : List Flag) (argv : List Bytes)
    (env : Bytes → Option Bytes) (hfs : newFlagSet W fields = .ok flags) :
    (∀ p, parse W flags argv env ≠ .error (.panic p)) ∧ parse W flags argv env ≠ .error .unknownStep := by
  obtain ⟨r, _, v⟩ := parse_outcome W env fields flags argv hfs
  generalize parse W flags argv env = res at v ⊢
  cases v <;> exact ⟨fun _ => nofun, nofun⟩

/-- The error classes.  `arg e`: exactly the grammar errors of C10.  `carrier`: the vector was
    grammatical and the JSON carrier is unreadable or invalid.  `badValue n`: the vector was
    grammatical, the carrier fine, and flag `n`'s effective text is unreadable. -/
theorem parse_error_classes (W : World) (fields : List Field) (flags : List Flag) (argv : List Bytes)
    (env : Bytes → Option Bytes) (hfs : newFlagSet W fields = .ok flags) :
    (∀ e, parse W flags argv env = .error (.arg e) ↔ ∃ s, argParse (lookupFlag flags) argv = .ok (.err e s)) ∧
    (parse W flags argv env = .error .carrier ↔
      ∃ as rest, argParse (lookupFlag flags) argv = .ok (.ok ⟨as, rest⟩) ∧
        carrierOverlay W env (cliPath as) = none) ∧
    (∀ n, parse W flags argv env = .error (.badValue n) →
      ∃ as rest, argParse (lookupFlag flags) argv = .ok (.ok ⟨as, rest⟩) ∧
        carrierOverlay W env (cliPath as) ≠ none ∧
        ∃ f ∈ flags, f.name = n ∧ ∃ t, effectiveText (effective as f.name) (envOf env f) = some t ∧
          setText W f.kind t = none) := by
  obtain ⟨r, ha, v⟩ := parse_outcome W env fields flags argv hfs
  generalize parse W flags argv env = res at v ⊢
  rw [ha]
  cases v with
  | arg e s => exact ⟨by simp, by simp, nofun⟩
  | carrier hc => exact ⟨by simp, by simp [hc], nofun⟩
  | ok hc hv => exact ⟨by simp, by simp [hc], nofun⟩
  | badValue hc hf ht hs =>
    refine ⟨by simp, by simp [hc], ?_⟩
    intro n hn
    cases hn
    exact ⟨_, _, rfl, by simp [hc], _, hf, rfl, _, ht, hs⟩

/-- An environment value — readable or not — of a flag that has a command-line value plays no
    role: changing the environment only in variables all of whose flags are set on the command
    line (and not in CFG_CONFIG_B64) cannot turn success into failure. -/
theorem shadowed_env_is_not_an_error (W : World) (fields : List Field) (flags : List Flag)
    (argv : List Bytes) (env env' : Bytes → Option Bytes) (as : List (Bytes × Bytes)) (rest : List Bytes)
    (hfs : newFlagSet W fields = .ok flags)
    (hargs : argParse (lookupFlag flags) argv = .ok (.ok ⟨as, rest⟩))
    (hsame : ∀ k, env' k ≠ env k →
      k ≠ Generated.b64ConfigEnv ∧ ∀ f ∈ flags, f.env = k → effective as f.name ≠ none)
    (hok : ∃ out, parse W flags argv env = .ok out) :
    ∃ out', parse W flags argv env' = .ok out' := by
  rw [parse_ok_iff W fields flags argv _ hfs] at hok ⊢
  obtain ⟨_, _, ha, hc, hcond⟩ := hok
  cases hargs.symm.trans ha
  have hb : env' Generated.b64ConfigEnv = env Generated.b64ConfigEnv :=
    Classical.byContradiction fun hne => (hsame _ hne).1 rfl
  refine ⟨as, rest, hargs, by simpa [carrierOverlay, hb] using hc, fun f hf t ht => hcond f hf t ?_⟩
  cases hcli : effective as f.name with
  | some c => simpa [effectiveText, hcli] using ht
  | none =>
    have henv : env' f.env = env f.env :=
      Classical.byContradiction fun hne => (hsame _ hne).2 f hf rfl hcli
    simpa [effectiveText, hcli, envOf, henv] using ht

section examples

/-- a tiny world: ints are `"1"` ↦ `"one"` and nothing else; no files; JSON `"j"` writes field 2 -/
def demoW : World where
  parseText := fun k t => if k = .int ∧ t = [0x31] then some [0x6f, 0x6e, 0x65] else none
  zero := fun _ => [0x30]
  lower := fun b => b.map (fun c => if isUpper c then c + 0x20 else c)
  readFile := fun _ => none
  b64Decode := fun t => if t = [0x6a] then some [0x6a] else none
  unmarshal := fun d => if d = [0x6a] then some [(2, [0x6a, 0x76])] else none

/-- `struct { Port int \`flag:"p,1,the port"\` }` -/
def demoFields : List Field := [.leaf [0x50, 0x6f, 0x72, 0x74] .int [0x70, 0x2c, 0x31, 0x2c, 0x74]]

def demoFlags : List Flag :=
  builtins demoW ++ [{ name := [0x70], env := [0x43, 0x46, 0x47, 0x5f, 0x50, 0x4f, 0x52, 0x54], kind := .int,
                       usage := [0x74], val := [0x6f, 0x6e, 0x65] }]

example : newFlagSet demoW demoFields = .ok demoFlags := by decide

def envPort (v : Bytes) : Bytes → Option Bytes := fun k =>
  if k = [0x43, 0x46, 0x47, 0x5f, 0x50, 0x4f, 0x52, 0x54] then some v else none
def envB64 : Bytes → Option Bytes := fun k => if k = Generated.b64ConfigEnv then some [0x6a] else none

def valOf (r : Except ParseErr PSt) : Except ParseErr (Option Val) := r.map fun s => (s.flags[2]?).map (·.val)

-- default only
example : valOf (parse demoW demoFlags [] (fun _ => none)) = .ok (some [0x6f, 0x6e, 0x65]) := by decide
-- JSON over default
example : valOf (parse demoW demoFlags [] envB64) = .ok (some [0x6a, 0x76]) := by decide
-- an unreadable environment value is an error
example : valOf (parse demoW demoFlags [] (envPort [0x78])) = .error (.badValue [0x70]) := by decide
-- a command-line value shadows the unreadable environment value (`-p=1`); the empty text is the zero value (`-p=`)
example : valOf (parse demoW demoFlags [[0x2d, 0x70, 0x3d, 0x31]] (envPort [0x78])) = .ok (some [0x6f, 0x6e, 0x65]) := by decide
example : valOf (parse demoW demoFlags [[0x2d, 0x70, 0x3d]] (envPort [0x78])) = .ok (some [0x30]) := by decide
-- an unreadable carrier is an error; so is an ungrammatical vector
example : valOf (parse demoW demoFlags [[0x2d, 0x63, 0x6f, 0x6e, 0x66, 0x69, 0x67, 0x3d, 0x66]] (fun _ => none)) = .error .carrier := by decide
example : valOf (parse demoW demoFlags [[0x2d, 0x70]] (fun _ => none)) = .error (.arg (.needsArg [0x70])) := by decide

-- environment keys: "CFG_ListenAddr", "CFG_HTTPPort", "CFG_Sub_X1y", "CFG_ConfigB64"
example : underscore [0x43, 0x46, 0x47, 0x5f, 0x4c, 0x69, 0x73, 0x74, 0x65, 0x6e, 0x41, 0x64, 0x64, 0x72] true
    = [0x43, 0x46, 0x47, 0x5f, 0x4c, 0x49, 0x53, 0x54, 0x45, 0x4e, 0x5f, 0x41, 0x44, 0x44, 0x52] := by decide
example : underscore [0x43, 0x46, 0x47, 0x5f, 0x48, 0x54, 0x54, 0x50, 0x50, 0x6f, 0x72, 0x74] true
    = [0x43, 0x46, 0x47, 0x5f, 0x48, 0x54, 0x54, 0x50, 0x5f, 0x50, 0x4f, 0x52, 0x54] := by decide
example : underscore [0x43, 0x46, 0x47, 0x5f, 0x53, 0x75, 0x62, 0x5f, 0x58, 0x31, 0x79] true
    = [0x43, 0x46, 0x47, 0x5f, 0x53, 0x55, 0x42, 0x5f, 0x58, 0x31, 0x59] := by decide
/-- a field called `ConfigB64` shares its variable with the JSON carrier -/
example : underscore (Generated.envKeyPrefix ++ [0x43, 0x6f, 0x6e, 0x66, 0x69, 0x67, 0x42, 0x36, 0x34]) true
    = Generated.b64ConfigEnv := by decide

end examples

end Glb.C09
