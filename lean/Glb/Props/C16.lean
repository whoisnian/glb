/-
  C16 — ShellEscape yields exactly one shell word that evaluates back to the input.

  "What the shell sees" is `Glb.PosixWords.lex` (Spec/PosixWords.lean): POSIX token recognition,
  quote removal and tilde expansion, validated against real dash and bash by the harness.
  `{ words := [lit s], special := false, unterminated := false }` reads: exactly one argument,
  its value is `s`, and nothing ended the word, started another command, or triggered an
  expansion, substitution, glob or comment.

  The theorems hold for EVERY byte string, of any length — including strings containing NUL
  (inside single quotes the lexer treats it like any other byte).  The NUL exclusion in the
  property text is a fact about real shells (argv cannot carry NUL), not about the quoting.
-/
import Glb.Tie.Strutil

namespace Glb.C16
open Glb Glb.Strutil Glb.PosixWords Glb.Tie.Strutil

/-- Generic form: ANY replacement for `'` that is quote-neutral (read inside single quotes it
    leaves the lexer inside single quotes, having added exactly one literal `'`) makes the
    escaped text one word with value `s`. -/
theorem escape_one_word_generic (r : Bytes) (hr : QuoteNeutral r) (s : Bytes) :
    lex (shellEscapeWith r s) = { words := [lit s], special := false, unterminated := false } := by
  rw [shellEscapeWith_eq]; exact lex_quoted r hr [39] [] rfl s

/-- **C16, main clause.**  For all byte strings `s`: the shell reads `ShellEscape(s)` as exactly
    one word whose value is `s`, and nothing special happens. -/
theorem escape_one_word (s : Bytes) :
    lex (shellEscape s) = { words := [s.map Atom.byte], special := false, unterminated := false } :=
  escape_one_word_generic _ repl_neutral s

/-- ShellEscapeExceptTilde never panics (`s[2:]` is only evaluated under `HasPrefix(s, "~/")`). -/
theorem tilde_never_panics (s : Bytes) : ∃ t, shellEscapeExceptTilde s = .ok t := by
  unfold shellEscapeExceptTilde
  by_cases h : hasPrefix s Generated.tildePrefix = true
  · obtain ⟨r, rfl⟩ : Generated.tildePrefix <+: s := List.isPrefixOf_iff_prefix.mp h
    rw [tilde_slice_eq]
    exact ⟨_, exceptTilde_prefix _ _ _ r⟩
  · exact ⟨_, exceptTilde_other _ _ _ _ s (by simpa using h)⟩

/-- **C16, tilde clause (a).**  For `s = "~/" ++ r`: the result is `~/` followed by the escaped
    remainder, and the shell reads it as exactly one word: $HOME, `/`, then `r` literally. -/
theorem tilde_variant (r : Bytes) :
    ∃ t, shellEscapeExceptTilde ([126, 47] ++ r) = .ok t ∧
      t = [126, 47] ++ shellEscape r ∧
      lex t = { words := [[Atom.home, Atom.byte 47] ++ r.map Atom.byte],
                special := false, unterminated := false } := by
  refine ⟨[126, 47] ++ shellEscape r, ?_, rfl, ?_⟩
  · unfold shellEscapeExceptTilde
    rw [tilde_slice_eq, tilde_keep_eq, tilde_prefix_eq]
    exact exceptTilde_prefix shellEscape [126, 47] [126, 47] r
  · unfold shellEscape
    rw [shellEscapeWith_eq]
    exact lex_quoted _ repl_neutral [126, 47, 39] [.home, .byte 47] rfl r

/-- **C16, tilde clause (b).**  For `s` not starting with `~/` the two functions agree (so
    `escape_one_word` applies: in particular `~`, `~user/x`, ` ~/x` are NOT left to the shell). -/
theorem tilde_variant_other (s : Bytes) (h : ¬ ([126, 47] : Bytes) <+: s) :
    shellEscapeExceptTilde s = .ok (shellEscape s) := by
  unfold shellEscapeExceptTilde
  apply exceptTilde_other
  rw [tilde_prefix_eq]
  cases hp : hasPrefix s [126, 47]
  · rfl
  · exact absurd (List.isPrefixOf_iff_prefix.mp hp) h

/-! ### non-vacuity and sanity of the spec -/

/-- `it's` ↦ `'it'"'"'s'` -/
example : shellEscape [105, 116, 39, 115] = [39, 105, 116, 39, 34, 39, 34, 39, 115, 39] := by decide
example : lex (shellEscape [105, 116, 39, 115]) =
    { words := [lit [105, 116, 39, 115]], special := false, unterminated := false } := by decide
/-- `'; a $(x) *` — every dangerous character at once -/
example : lex (shellEscape [39, 59, 32, 97, 32, 36, 40, 120, 41, 32, 42]) =
    { words := [lit [39, 59, 32, 97, 32, 36, 40, 120, 41, 32, 42]], special := false,
      unterminated := false } := by decide
/-- the hypothesis of `escape_one_word_generic` is satisfiable (by the literal of the source and
    by the other classic spelling `'\''`) and refutable -/
example : QuoteNeutral [39, 34, 39, 34, 39] := quoteNeutral_of_check _ (by decide)
example : QuoteNeutral [39, 92, 39, 39] := quoteNeutral_of_check _ (by decide)
example : quoteNeutralCheck [39, 34, 39, 34] = false := by decide      -- `'"'"` : quotation left open
example : quoteNeutralCheck [92, 39] = false := by decide              -- `\'`  : no escapes inside '…'
/-- tilde clause: `~/a'b` ↦ `~/'a'"'"'b'` ↦ one word $HOME/a'b -/
example : shellEscapeExceptTilde [126, 47, 97, 39, 98] =
    .ok [126, 47, 39, 97, 39, 34, 39, 34, 39, 98, 39] := by rfl
example : lex [126, 47, 39, 97, 39, 34, 39, 34, 39, 98, 39] =
    { words := [[.home, .byte 47, .byte 97, .byte 39, .byte 98]], special := false,
      unterminated := false } := by decide
/-- the hypothesis of `tilde_variant_other` holds e.g. for `~` alone and for `~a/` -/
example : ¬ ([126, 47] : Bytes) <+: [126] := by decide
example : shellEscapeExceptTilde [126, 97, 47] = .ok (shellEscape [126, 97, 47]) :=
  tilde_variant_other _ (by decide)

/-! The spec is not trivially "never special": unescaped dangerous text IS flagged, split, or
    left unterminated by the lexer. -/
/-- `a;b` : two commands -/
example : lex [97, 59, 98] = { words := [lit [97], lit [98]], special := true, unterminated := false } := by
  decide
/-- `$(x)` : command substitution -/
example : (lex [36, 40, 120, 41]).special = true := by decide
/-- `a b` : two words -/
example : lex [97, 32, 98] = { words := [lit [97], lit [98]], special := false, unterminated := false } := by
  decide
/-- `it's` unescaped: unterminated quotation -/
example : (lex [105, 116, 39, 115]).unterminated = true := by decide
/-- `"$a"` : double quotes do not protect `$` -/
example : (lex [34, 36, 97, 34]).special = true := by decide
/-- `*`, `#x`, `~root`, backquote -/
example : (lex [42]).special = true ∧ (lex [35, 120]).special = true ∧
    (lex [126, 114, 111, 111, 116]).special = true ∧ (lex [96, 97, 96]).special = true := by decide
/-- a broken escaper (replacement `'"'"`, i.e. the final quote forgotten) is caught by the
    spec: `a'b c` would reach the command with the quotation left open -/
example : lex (shellEscapeWith [39, 34, 39, 34] [97, 39, 98, 32, 99]) ≠
    { words := [lit [97, 39, 98, 32, 99]], special := false, unterminated := false } := by decide
/-- and an escaper that does not touch `'` at all lets `';a;'` run the command `a` -/
example : lex (shellEscapeWith [39] [39, 59, 97, 59, 39]) =
    { words := [[], lit [97], []], special := true, unterminated := false } := by decide

end Glb.C16
