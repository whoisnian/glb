/-
  Aux — supporting theorems about small functions of /repo that no listed property covers by itself
  (attached to C16's run; each group names the property area it supports).

    §A  logger.argsToAttrs / slog Record.Add               (C03: what `With(args...)` hands to the handler)
    §B  logger.appendIntWidth1..4 / appendDateTime         (C03: the time prefix of every Nano line)
    §C  netutil.FirstIP / LastIP / SplitHostPort           (C11: CIDR helpers; C15: client address)
    §D  strutil.Camelize / IsDigitString / SliceContain    (C16)
    §E  fsutil.ExpandHomeDir                               (C17)
    §F  httpd.Store.GetClientIP / CookieValue              (C15: the `ip` field Relay logs)

  Only theorems and non-vacuity examples live here; models are in Glb/Model/Aux*.lean, helper
  lemmas in Glb/Proofs/Aux*.lean.  Everything is universally quantified over all argument lists /
  byte strings / integers unless it is explicitly a witness (`…_witness`, `split_witnesses`).
-/
import Glb.Proofs.AuxLogger
import Glb.Proofs.AuxNetutil
import Glb.Proofs.AuxStrutil
import Glb.Proofs.AuxFsutil
import Glb.Proofs.AuxHttpd

namespace Glb.Aux
open Glb

/-! ## §A argsToAttrs -/
section Args
open Glb.Aux.Args
variable {σ α ν : Type}

/-- between ⌈n/2⌉ and n attributes are produced from n arguments -/
theorem args_length_bounds (xs : List (Arg σ α ν)) :
    (argsToAttrs xs).length ≤ xs.length ∧ xs.length ≤ 2 * (argsToAttrs xs).length := by
  induction xs using args_induction with
  | nil => exact ⟨Nat.le_refl _, Nat.le_refl _⟩
  | step o rest hb ih =>
    have := source_length o
    rw [argsToAttrs_source o rest hb, List.length_append, List.length_cons]
    omega

/-- nothing is lost, duplicated or reordered: the arguments the produced attributes were made from,
    concatenated in order, are exactly the argument list (so `argsToAttrs` is injective) -/
theorem args_order_preserved (xs : List (Arg σ α ν)) : unparse (argsToAttrs xs) = xs := by
  induction xs using args_induction with
  | nil => rfl
  | step o rest hb ih =>
    rw [argsToAttrs_source o rest hb]
    show o.source ++ unparse (argsToAttrs rest) = _
    rw [ih]

/-- exact characterisation of what happens to each argument, by an independent left-to-right scan
    with one bit of state and one token of lookahead (`roles`): argument i is a key iff it is a string
    in key position that is not the last argument, the argument after a key is its value whatever its
    type, a lone trailing string is `!BADKEY`-string, an Attr in key position passes, anything else in
    key position is `!BADKEY`-any; and #attributes = #arguments − #values -/
theorem args_roles (xs : List (Arg σ α ν)) :
    roles false xs = (argsToAttrs xs).flatMap Out.roles ∧
    (roles false xs).length = xs.length ∧
    (argsToAttrs xs).length + ((roles false xs).filter (· = .value)).length = xs.length := by
  induction xs using args_induction with
  | nil => exact ⟨rfl, rfl, rfl⟩
  | step o rest hb ih =>
    rw [roles_source o rest hb, argsToAttrs_source o rest hb, List.flatMap_cons, ← ih.1]
    refine ⟨rfl, ?_, ?_⟩
    · rw [List.length_append, List.length_append, ih.2.1]
      cases o <;> rfl
    · -- a pair is made from two arguments and has one value among its roles, the others from one and have none
      rw [List.filter_append, List.length_append, List.length_append, List.length_cons, ← ih.2.2]
      cases o <;> simp [Out.roles, Out.source] <;> omega

/-- without strings every argument becomes its own attribute: Attrs pass unchanged, other values get
    the key `!BADKEY` -/
theorem args_no_strings (xs : List (Arg σ α ν)) (h : ∀ x ∈ xs, x.isStr = false) :
    argsToAttrs xs = xs.map direct := by
  induction xs with
  | nil => rfl
  | cons x xs ih =>
    have ih' := ih (fun y hy => h y (List.mem_cons_of_mem _ hy))
    have hx := h x (List.mem_cons_self ..)
    cases x with
    | str s => simp [Arg.isStr] at hx
    | attr a => simp [argsToAttrs, direct, ih']
    | other v => simp [argsToAttrs, direct, ih']

example : argsToAttrs ([.attr 1, .other 2, .attr 3] : List (Arg Nat Nat Nat)) = [.pass 1, .badAny 2, .pass 3] := by
  decide

/-- an Attr among the outputs as itself was an Attr argument -/
theorem args_pass_sound (xs : List (Arg σ α ν)) (a : α) (h : .pass a ∈ argsToAttrs xs) : .attr a ∈ xs := by
  rw [← args_order_preserved xs]
  exact List.mem_flatMap.mpr ⟨_, h, List.mem_singleton.mpr rfl⟩

/-- every list of attributes without a lone string is produced from its own sources (completeness),
    in particular an Attr in key position always passes unchanged -/
theorem args_complete (os : List (Out σ α ν)) (h : ∀ o ∈ os, o.isBadStr = false) (ys : List (Arg σ α ν)) :
    argsToAttrs (unparse os ++ ys) = os ++ argsToAttrs ys := by
  induction os with
  | nil => rfl
  | cons o os ih =>
    show argsToAttrs (o.source ++ unparse os ++ ys) = _
    rw [List.append_assoc, argsToAttrs_source o _ (by simp [h o (List.mem_cons_self ..)]),
      ih (fun o ho => h o (List.mem_cons_of_mem _ ho))]
    rfl

example : ∀ o ∈ ([.pair 1 (.attr 2), .pass 3] : List (Out Nat Nat Nat)), o.isBadStr = false := by decide

/-- a prefix that ends on an attribute boundary (its own result has no lone string) is converted
    independently of what follows -/
theorem args_append_boundary (xs ys : List (Arg σ α ν))
    (h : ∀ o ∈ argsToAttrs xs, o.isBadStr = false) :
    argsToAttrs (xs ++ ys) = argsToAttrs xs ++ argsToAttrs ys := by
  have := args_complete (argsToAttrs xs) h ys
  rwa [args_order_preserved] at this

example : ∀ o ∈ argsToAttrs ([.str 1, .str 2, .attr 3] : List (Arg Nat Nat Nat)), o.isBadStr = false := by
  decide

/-- the hypothesis is needed: a trailing lone string pairs with the next argument -/
theorem args_append_witness :
    argsToAttrs (([.str 1] : List (Arg Nat Nat Nat)) ++ [.attr 2]) ≠ argsToAttrs [.str 1] ++ argsToAttrs [.attr 2] := by
  decide

/-- `!BADKEY`-string can only be the last attribute, made from the last argument -/
theorem args_badStr_only_last (xs : List (Arg σ α ν)) (s : σ) (pre post : List (Out σ α ν))
    (h : argsToAttrs xs = pre ++ .badStr s :: post) : post = [] ∧ xs = unparse pre ++ [.str s] := by
  induction pre generalizing xs with
  | nil =>
    obtain ⟨rest, rfl, rfl, hr⟩ := argsToAttrs_cons xs _ _ h
    rw [hr rfl]
    exact ⟨rfl, rfl⟩
  | cons p pre ih =>
    obtain ⟨rest, rfl, h', _⟩ := argsToAttrs_cons xs p _ h
    obtain ⟨hp, rfl⟩ := ih rest h'
    exact ⟨hp, (List.append_assoc ..).symm⟩

example : argsToAttrs ([.attr 1, .str 2] : List (Arg Nat Nat Nat)) = [.pass 1] ++ .badStr 2 :: [] := by decide

/-- `Logger.Info(msg, args...)` (slog's Record.Add) sees the attributes `Logger.With(args...)` hands
    to `WithAttrs`, minus those whose value is an empty group; without empty groups: the same list -/
theorem args_record_add (eg : Out σ α ν → Bool) (xs : List (Arg σ α ν)) :
    recordAdd eg xs = (argsToAttrs xs).filter (fun o => !eg o) ∧
    ((∀ o ∈ argsToAttrs xs, eg o = false) → recordAdd eg xs = argsToAttrs xs) := by
  refine ⟨rfl, fun h => ?_⟩
  unfold recordAdd
  rw [List.filter_eq_self]
  intro o ho
  simp [h o ho]

end Args

/-! ## §B fixed-width decimal writers and the date-time prefix -/
section DateTime
open Glb.Aux.DateTime

/-- tie of the regenerated table: 200 bytes, entry i is the two decimal digits of i -/
theorem smalls_is_digit_table :
    smalls.length = 200 ∧ ∀ i < 100, (smalls.drop (2 * i)).take 2 = [digit (i / 10), digit i] :=
  ⟨smalls_length, smalls_table⟩

/-- `pad w n` is w ASCII digits whose decimal value is `n mod 10^w` (so it is n itself for n < 10^w) -/
theorem pad_spec (w n : Nat) :
    (pad w n).length = w ∧ (∀ b ∈ pad w n, isDigitByte b = true) ∧ decimal (pad w n) = n % 10 ^ w := by
  induction w generalizing n with
  | zero => exact ⟨rfl, nofun, (Nat.mod_one _).symm⟩
  | succ w ih =>
    obtain ⟨_, hd, hv⟩ := ih (n / 10)
    refine ⟨pad_length _ n, fun b hb => ?_, ?_⟩
    · rcases List.mem_append.mp hb with hb | hb
      · exact hd b hb
      · rw [List.mem_singleton.mp hb]; exact digit_isDigit n
    · rw [pad, decimal_append, hv, digit_toNat, Nat.pow_succ, Nat.mul_comm (10 ^ w) 10, Nat.mod_mul]
      omega

/-- in their documented ranges the four writers append exactly the zero-padded decimal digits and do
    not panic -/
theorem width_exact (buf : Bytes) (i : Nat) :
    (i < 10 → appendIntWidth1 buf i = .ok (buf ++ pad 1 i)) ∧
    (i < 100 → appendIntWidth2 buf i = .ok (buf ++ pad 2 i)) ∧
    (i < 1000 → appendIntWidth3 buf i = .ok (buf ++ pad 3 i)) ∧
    (i < 10000 → appendIntWidth4 buf i = .ok (buf ++ pad 4 i)) := by
  refine ⟨fun h => ?_, width2_ok buf i, fun h => ?_, width4_ok buf i⟩
  · simp [appendIntWidth1, idx_digit i (by omega), pad_one]; rfl
  · have e : (i : Int) - ((i / 100 : Nat) : Int) * 100 = ((i % 100 : Nat) : Int) := by omega
    simp only [appendIntWidth3, goDiv_nat, e, idx_digit (i / 100) (by omega),
      slice_pair (i % 100) (by omega), pad_two_mod, pad_three]
    exact congrArg Except.ok (List.append_assoc ..)

set_option maxRecDepth 100000 in
example : appendIntWidth3 [] 42 = .ok [48, 52, 50] := by decide

/-- outside the documented range the two- and four-digit writers panic (negative numbers included) -/
theorem width_out_of_range_panics (buf : Bytes) (i : Int) :
    ((i < 0 ∨ 100 ≤ i) → ∃ p, appendIntWidth2 buf i = .error p) ∧
    ((i < 0 ∨ 10000 ≤ i) → ∃ p, appendIntWidth4 buf i = .error p) :=
  ⟨width2_panics buf i, width4_panics buf i⟩

/-- `appendDateTime` returns normally exactly when the year is in 0..9999 and the other five numbers
    are in 0..99 (always true for month, day, hour, minute, second of a `time.Time`), and then it
    appends exactly the 19 bytes `YYYY-MM-DD HH:MM:SS` -/
theorem datetime_exact (buf : Bytes) (Y M D h m s : Int) (r : Bytes) :
    appendDateTime buf Y M D h m s = .ok r ↔
      ((0 ≤ Y ∧ Y < 10000) ∧ inR M ∧ inR D ∧ inR h ∧ inR m ∧ inR s) ∧
      r = buf ++ render Y.toNat M.toNat D.toNat h.toNat m.toNat s.toNat := by
  have w4 := bind_ok_of_range appendIntWidth4 4 10000 (fun b n h => width4_ok b n (by omega)) width4_panics
  have w2 := bind_ok_of_range appendIntWidth2 2 100 (fun b n h => width2_ok b n (by omega)) width2_panics
  have hlast : ∀ b, appendIntWidth2 b s = (appendIntWidth2 b s >>= pure) := by
    intro b; cases appendIntWidth2 b s <;> rfl
  unfold appendDateTime
  simp only [w4, w2]
  rw [hlast, w2]
  simp only [pure, Except.pure, Except.ok.injEq, and_assoc, render, List.append_assoc, eq_comm (a := r), inR]

/-- layout of the 19 bytes: separators at the fixed positions 4, 7, 10, 13, 16, the decimal digits of
    the six numbers elsewhere -/
theorem datetime_layout (Y M D h m s : Nat) :
    (render Y M D h m s).length = 19 ∧
    render Y M D h m s =
      [digit (Y / 1000), digit (Y / 100), digit (Y / 10), digit Y, 45, digit (M / 10), digit M, 45,
       digit (D / 10), digit D, 32, digit (h / 10), digit h, 58, digit (m / 10), digit m, 58,
       digit (s / 10), digit s] ∧
    ∀ n, isDigitByte (digit n) = true :=
  ⟨by simp [render, pad_length], by simp [render, pad, Nat.div_div_eq_div_mul], digit_isDigit⟩

set_option maxRecDepth 100000 in
example : appendDateTime [] 2023 8 16 0 35 15 = .ok [50, 48, 50, 51, 45, 48, 56, 45, 49, 54, 32, 48, 48, 58, 51, 53, 58, 49, 53] := by decide

/-- OBSERVATION (not a violation of a listed property): a record time in year 10000 makes
    `appendIntWidth4` slice `smallsString[200:202]`, i.e. `NanoHandler.Handle` panics; so does year −1 -/
theorem datetime_year_10000_witness :
    appendDateTime [] 10000 1 1 0 0 0 = .error (.sliceBounds 200 202 200) ∧
    (∃ p, appendDateTime [] (-1) 12 31 23 59 59 = .error p) := by
  refine ⟨?_, ?_⟩
  · have h : sliceI? smalls (100 * 2) (100 * 2 + 2) = .error (.sliceBounds 200 202 200) := by
      rw [sliceI?, if_neg (by decide), slice?, smalls_length]
      rfl
    simp only [appendDateTime, appendIntWidth4, show goDiv 10000 100 = 100 from rfl, h]
    rfl
  cases h : appendDateTime [] (-1) 12 31 23 59 59 with
  | error p => exact ⟨p, rfl⟩
  | ok r => have := (datetime_exact _ _ _ _ _ _ _ _).mp h; omega

end DateTime

/-! ## §C FirstIP / LastIP / SplitHostPort -/
section Net
open Glb.Aux.Net

/-- for an IP and a mask of the same length (the 4-byte and the 16-byte forms `net.ParseCIDR`
    returns; any length in fact) neither function panics, FirstIP is the bytewise `ip & mask` and
    LastIP the bytewise `(ip & mask) | ^mask`: network bits kept, host bits all 0 resp. all 1 -/
theorem first_last_bitwise (ip mask : Bytes) (h : ip.length = mask.length) :
    firstIP ip mask = some (andBytes ip mask) ∧
    lastIP ip mask = .ok (some (orNotBytes (andBytes ip mask) mask)) :=
  ⟨ipMask_same ip mask h, lastIP_of_mask ip mask ip (ipMask_same ip mask h) h⟩

example : lastIP [192, 0, 2, 77] [255, 255, 255, 0] = .ok (some [192, 0, 2, 255]) := by decide

/-- the IPv4-mapped 16-byte form of the IP with a 4-byte mask: both answer in the 4-byte form -/
theorem first_last_mapped (a mask : Bytes) (ha : a.length = 4) (hm : mask.length = 4) :
    firstIP (v4InV6Prefix ++ a) mask = some (andBytes a mask) ∧
    lastIP (v4InV6Prefix ++ a) mask = .ok (some (orNotBytes (andBytes a mask) mask)) :=
  ⟨ipMask_mapped a mask ha hm,
    lastIP_of_mask _ mask a (ipMask_mapped a mask ha hm) (ha.trans hm.symm)⟩

example : firstIP (v4InV6Prefix ++ [10, 1, 2, 3]) [255, 0, 0, 0] = some [10, 0, 0, 0] := by decide

/-- both ends belong to the network -/
theorem first_last_contained (ip mask : Bytes) (h : ip.length = mask.length) :
    contains ip mask (andBytes ip mask) ∧ contains ip mask (orNotBytes (andBytes ip mask) mask) :=
  ⟨⟨andBytes_length ip mask h, and_and_bytes ip mask⟩,
    ⟨by simp [orNotBytes, andBytes, h], orNot_and_bytes ip mask⟩⟩

/-- every address x of the network lies between them: bytewise (hence lexicographically) and as
    big-endian numbers; with the previous theorem FirstIP / LastIP are the lowest / highest address -/
theorem first_le_ip_le_last (ip mask x : Bytes) (h : ip.length = mask.length) (hx : contains ip mask x) :
    leAll (andBytes ip mask) x ∧ leAll x (orNotBytes (andBytes ip mask) mask) ∧
    beNat (andBytes ip mask) ≤ beNat x ∧ beNat x ≤ beNat (orNotBytes (andBytes ip mask) mask) := by
  obtain ⟨h1, h2⟩ := bounds ip mask x h hx
  exact ⟨h1, h2, leAll_beNat _ _ h1, leAll_beNat _ _ h2⟩

example : contains [192, 0, 2, 77] [255, 255, 255, 0] [192, 0, 2, 1] := by decide

/-- OBSERVATION: a hand-built `net.IPNet` with a 4-byte IP and a 16-byte mask (first 12 bytes 0xff)
    is accepted by `IP.Mask` (FirstIP answers), but LastIP indexes the 4-byte result with the mask's
    indices and panics -/
theorem lastIP_mixed_form_witness :
    firstIP [192, 0, 2, 1] ([255, 255, 255, 255, 255, 255, 255, 255, 255, 255, 255, 255] ++ [255, 255, 255, 0])
      = some [192, 0, 2, 0] ∧
    lastIP [192, 0, 2, 1] ([255, 255, 255, 255, 255, 255, 255, 255, 255, 255, 255, 255] ++ [255, 255, 255, 0])
      = .error (.indexRange 15 4) := by
  decide

/-- SplitHostPort never panics -/
theorem split_total (addr : Bytes) : ∃ h p, splitHostPort addr = .ok (h, p) :=
  Net.split_total addr

/-- what it returns, exactly: without a colon the whole string and ""; otherwise the string is cut
    at its LAST colon, and the brackets of a host of the form "[…]" are removed -/
theorem split_spec (addr h p : Bytes) (hs : splitHostPort addr = .ok (h, p)) :
    (colon ∉ addr ∧ h = addr ∧ p = []) ∨
    (colon ∉ p ∧ ((addr = h ++ colon :: p ∧ ¬ Bracketed h) ∨ addr = lbr :: h ++ rbr :: colon :: p)) :=
  Net.split_spec addr h p hs

theorem split_cases (h p : Bytes) (hp : colon ∉ p) :
    (colon ∉ h → splitHostPort h = .ok (h, [])) ∧
    (¬ Bracketed h → splitHostPort (h ++ colon :: p) = .ok (h, p)) ∧
    splitHostPort (lbr :: h ++ rbr :: colon :: p) = .ok (h, p) :=
  ⟨split_nocolon h, split_plain h p hp, split_bracket h p hp⟩

/-- inverse of `net.JoinHostPort` on well-formed input: a port without colon, a host that contains
    a colon (it is bracketed by Join) or is not itself of the form "[…]" -/
theorem split_join_inverse (host port : Bytes) (hp : colon ∉ port) (hh : colon ∈ host ∨ ¬ Bracketed host) :
    splitHostPort (joinHostPort host port) = .ok (host, port) := by
  unfold joinHostPort
  split
  · exact split_bracket host port hp
  · exact split_plain host port hp (hh.resolve_left ‹_›)

example : splitHostPort (joinHostPort [58, 58, 49] [56, 48]) = .ok ([58, 58, 49], [56, 48]) := by decide

/-- OBSERVATIONS ("without strict validation"): "[::1]" without a port is cut at its last colon into
    "[:" and "1]"; an unbracketed "::1" gives host ":" port "1"; "[a]:1" loses its brackets even
    though "a" has no colon -/
theorem split_witnesses :
    splitHostPort [91, 58, 58, 49, 93] = .ok ([91, 58], [49, 93]) ∧
    splitHostPort [58, 58, 49] = .ok ([58], [49]) ∧
    splitHostPort [91, 97, 93, 58, 49] = .ok ([97], [49]) := by
  decide

end Net

/-! ## §D Camelize / IsDigitString / SliceContain -/
section Str
open Glb.Aux.Str

/-- the output consists of ASCII letters and digits only and is never longer than the input -/
theorem camelize_alnum (s : Bytes) (u : Bool) :
    (∀ b ∈ camelize s u, isAlnumByte b = true) ∧ (camelize s u).length ≤ s.length :=
  camelizeGo_alnum s u false

/-- on a string of letters and digits: the first letter gets the requested case, every later letter
    is lower-cased (inner capitals are NOT kept: "fooBar" ↦ "foobar"), digits stay -/
theorem camelize_of_alnum (t : Bytes) (u : Bool) (ht : ∀ b ∈ t, isAlnumByte b = true) :
    camelize t u = capFirst u t :=
  camelizeGo_alnum_input t ht u false

example : camelize [102, 111, 111, 66, 97, 114] true = [70, 111, 111, 98, 97, 114] := by decide

/-- Camelize is not idempotent on its own output for a fixed `upper` … -/
theorem camelize_not_idempotent_witness :
    camelize [97, 95, 98] false = [97, 66] ∧ camelize [97, 66] false = [97, 98] := by
  decide

/-- … but it is from the second application on (for every input and both values of `upper`) -/
theorem camelize_stable (s : Bytes) (u : Bool) :
    camelize (camelize (camelize s u) u) u = camelize (camelize s u) u :=
  Str.camelize_stable s u

/-- case of the first letter: after a prefix without letters and digits the first letter c is
    written in the requested case; with `upper = true` the same holds after any prefix without
    letters (its digits are kept in front) -/
theorem camelize_first_letter (pre rest : Bytes) (c : UInt8) (u : Bool) (hc : isLetter c = true) :
    ((∀ b ∈ pre, isAlnumByte b = false) →
      camelize (pre ++ c :: rest) u = recaseTo u c :: camelizeGo false true rest) ∧
    ((∀ b ∈ pre, isLetter b = false) →
      camelize (pre ++ c :: rest) true = pre.filter Glb.Config.isDigit ++ toUpperByte c :: camelizeGo false true rest) := by
  unfold camelize
  refine ⟨fun hp => ?_, fun hp => ?_⟩
  · rw [camelize_skip_seps pre hp, camelizeGo_letter hc]
  · rw [camelize_skip_nonletters pre hp, camelizeGo_letter hc]
    rfl

example : camelize [49, 95, 97] false = [49, 65] := by decide

/-- IsDigitString ⇔ non-empty and every byte in '0'..'9' -/
theorem isDigitString_iff (s : Bytes) :
    isDigitString s = true ↔ s ≠ [] ∧ ∀ b ∈ s, (0x30 ≤ b ∧ b ≤ 0x39) := by
  simp [isDigitString, allDigitsGo_eq, Glb.Config.isDigit, and_comm]

/-- SliceContain ⇔ membership -/
theorem sliceContain_iff (l : List Bytes) (v : Bytes) : sliceContain l v = true ↔ v ∈ l :=
  Str.sliceContain_iff l v

end Str

/-! ## §E ExpandHomeDir -/
section Home
open Glb.Aux.Home Glb.PathClean

/-- the literal transcription with checked index / slice expressions never panics and equals the
    case-analysis form -/
theorem home_never_panics (home raw : Bytes) : expandHomeDir? home raw = .ok (expandHomeDir home raw) :=
  expandHomeDir_eq home raw

/-- exactly "~", "~/…" and "~\…" are expanded -/
theorem home_expands_iff (raw : Bytes) :
    expands raw = true ↔ raw = [tilde] ∨ (∃ r, raw = tilde :: slash :: r) ∨ (∃ r, raw = tilde :: backslash :: r) := by
  match raw with
  | [] => simp [expands]
  | [c] => simp [expands]
  | c :: d :: rest => simp [expands, and_or_left]

/-- everything else ("", "~user/x", "a/~", …) is only cleaned, whatever $HOME is, without error -/
theorem home_other_cleaned (home raw : Bytes) (h : expands raw = false) :
    expandHomeDir home raw = (clean raw, false) := by
  simp [expandHomeDir, h]

example : expands [126, 117, 115, 101, 114, 47, 120] = false := by decide

/-- with $HOME set: "~" is $HOME verbatim (not cleaned), "~/x" is Join($HOME, "/x") = Clean($HOME//x),
    "~\x" is Join($HOME, "\x") -/
theorem home_expanded (home x : Bytes) (hh : home ≠ []) :
    expandHomeDir home [tilde] = (home, false) ∧
    expandHomeDir home (tilde :: slash :: x) = (join [home, slash :: x], false) ∧
    join [home, slash :: x] = clean (home ++ slash :: slash :: x) ∧
    expandHomeDir home (tilde :: backslash :: x) = (join [home, backslash :: x], false) := by
  refine ⟨?_, ?_, join_nonempty home _ hh, ?_⟩ <;> simp [expandHomeDir, expands, hh]

example : expandHomeDir [47, 114, 111, 111, 116, 47] [126, 47, 97, 47, 46, 46, 47, 98] = ([47, 114, 111, 111, 116, 47, 98], false) := by decide

/-- with $HOME unset or empty every expanded input yields ("", error) -/
theorem home_unset (raw : Bytes) (h : expands raw = true) : expandHomeDir [] raw = ([], true) := by
  simp [expandHomeDir, h]

example : expands [126, 47, 120] = true := by decide

end Home

/-! ## §F GetClientIP / CookieValue -/
section Httpd
open Glb.Aux.Httpd Glb.Aux.Net

/-- GetClientIP never panics and follows the precedence X-Client-IP > text before the first comma of
    X-Forwarded-For > X-Real-IP > host part of RemoteAddr (by SplitHostPort); an empty header value
    counts as absent -/
theorem client_ip_precedence (h : Header) (remote : Bytes) :
    ∃ host port, splitHostPort remote = .ok (host, port) ∧
    getClientIP h remote = .ok (
      if get h xClientIP ≠ [] then get h xClientIP
      else if get h xForwardedFor ≠ [] then upTo comma (get h xForwardedFor)
      else if get h xRealIP ≠ [] then get h xRealIP
      else host) := by
  obtain ⟨host, port, hs⟩ := Net.split_total remote
  refine ⟨host, port, hs, ?_⟩
  unfold getClientIP
  dsimp only
  by_cases h1 : get h xClientIP ≠ []
  · rw [if_pos h1, if_pos h1]; rfl
  · rw [if_neg h1, if_neg h1]
    by_cases h2 : get h xForwardedFor ≠ []
    · rw [if_pos h2, if_pos h2]; exact forwarded_first _
    · rw [if_neg h2, if_neg h2]
      by_cases h3 : get h xRealIP ≠ []
      · rw [if_pos h3, if_pos h3]; rfl
      · rw [if_neg h3, if_neg h3, hs]; rfl

/-- `upTo`: the longest comma-free prefix (no trimming of spaces is done) -/
theorem forwarded_prefix (ip : Bytes) :
    comma ∉ upTo comma ip ∧ (upTo comma ip = ip ∨ ∃ rest, ip = upTo comma ip ++ comma :: rest) := by
  fun_induction upTo comma ip with
  | case1 => exact ⟨nofun, .inl rfl⟩
  | case2 rest => exact ⟨nofun, .inr ⟨rest, rfl⟩⟩
  | case3 x rest hx ih =>
    exact ⟨by simp [Ne.symm hx, ih.1], ih.2.imp (congrArg _) fun ⟨r, e⟩ => ⟨r, congrArg _ e⟩⟩

/-- CookieValue is the value of the first parsed cookie of that name … -/
theorem cookie_value_first (pre post : List (Bytes × Bytes)) (name v : Bytes) (hn : name ≠ [])
    (hp : ∀ c ∈ pre, c.1 ≠ name) : cookieValue (pre ++ (name, v) :: post) name = v := by
  have : (pre ++ (name, v) :: post).find? (fun c => c.1 = name) = some (name, v) := by
    rw [List.find?_append, List.find?_eq_none.mpr (fun c hc => by simpa using hp c hc)]
    simp
  rw [cookieValue, if_neg hn, this]

example : cookieValue [([97], [49]), ([98], [50]), ([98], [51])] [98] = [50] := by decide

/-- … and "" when there is none or the name is empty -/
theorem cookie_value_absent (cookies : List (Bytes × Bytes)) (name : Bytes)
    (h : name = [] ∨ ∀ c ∈ cookies, c.1 ≠ name) : cookieValue cookies name = [] := by
  unfold cookieValue
  split
  · rfl
  · rw [List.find?_eq_none.mpr (fun c hc => by simpa using h.resolve_left ‹_› c hc)]

end Httpd

end Glb.Aux
