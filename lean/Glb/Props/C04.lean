/-
  C04 — Router dispatches every request to exactly one handler by documented precedence.

  Model: `Glb/Model/Router.lean` (trie, `parseRoute`, `findRoute`, `serveHTTP`, same index loops and
  panicking slice expressions as /repo/httpd/tree.go).  Specification: `Glb/Spec/RouteList.lean`
  (`specFind` / `specRegister` over the plain list of registered routes, no trie).
  The lemmas are in `Glb/Proofs/Router*.lean`; `build_spec` is here because it speaks of `AllAccepted`.

  Reading of the property text fixed in DESIGN.md §8.1: a path without a leading '/' is walked as
  if it had one; tables containing a refused registration are outside "successfully registered
  routes".  Patterns are taken with their leading '/' (or empty); `pattern_first_byte_ignored`
  states what the code does with any other first byte.
-/
import Glb.Proofs.RouterMain

namespace Glb.C04
open Glb Glb.Router Glb.RouteList

/-- what the handler sees in `store.P` when the specification selects `mt` -/
def paramsOf (mt : Match) : Params :=
  { K := mt.binds.map (fun b => nameKey b.1), V := mt.binds.map (fun b => b.2) }

/-- the route list's own reading of "all registrations succeed, in order" -/
def AllAccepted : List Route → List Route → Prop
  | _, [] => True
  | ok, r :: rs => (specRegister ok r).isOk = true ∧ AllAccepted (ok ++ [r]) rs

instance : ∀ (ok rs : List Route), Decidable (AllAccepted ok rs)
  | _, [] => isTrue trivial
  | ok, r :: rs => by
    unfold AllAccepted
    exact @instDecidableAnd _ _ _ (instDecidableAllAccepted (ok ++ [r]) rs)

/-- Registering `rs` after the accepted routes `ok0`: the registrations all succeed exactly when the route list
    accepts each after its predecessors, and then the trie is that of `ok0 ++ rs`, whose patterns have all passed
    the fragment check. -/
theorem build_spec (rs : List Route) : ∀ (ok0 : List Route) (t0 : Node), (∀ r ∈ rs, LeadingSlash r.pattern) →
    TInv (indexFrom 0 ok0) [] t0 →
    match buildFrom t0 ok0.length (rs.map regOf) with
    | some t => AllAccepted ok0 rs ∧ TInv (indexFrom 0 (ok0 ++ rs)) [] t ∧ ∀ r ∈ rs, validPattern (pattern r.pattern)
    | none => ¬ AllAccepted ok0 rs := by
  induction rs with
  | nil => intro ok0 t0 _ h; exact ⟨trivial, by rwa [List.append_nil], nofun⟩
  | cons r rs ih =>
    intro ok0 t0 hls h
    obtain ⟨t1, hp, hinv⟩ := handle_spec h (hls r List.mem_cons_self) r.method ok0.length
    simp only [List.map_cons, regOf, buildFrom, hp, AllAccepted]
    cases hs : specRegister ok0 r with
    | error e => exact fun ha => by cases ha.1
    | ok n =>
      rw [hs, indexFrom_snoc] at hinv
      have := ih (ok0 ++ [r]) t1 (fun r' hr => hls r' (List.mem_cons_of_mem _ hr)) hinv
      simp only [List.length_append, List.length_singleton, List.append_assoc, List.singleton_append] at this
      simp only [Except.mapError]
      generalize buildFrom t1 (ok0.length + 1) (rs.map regOf) = b at this ⊢
      cases b with
      | some t => exact ⟨⟨rfl, this.1⟩, this.2.1, List.forall_mem_cons.mpr ⟨specRegister_ok_valid hs, this.2.2⟩⟩
      | none => exact fun ha => this ha.2

theorem build_tinv {routes : List Route} {t : Node} (hls : ∀ r ∈ routes, LeadingSlash r.pattern)
    (hb : build (routes.map regOf) = some t) :
    TInv (indexFrom 0 routes) [] t ∧ ∀ r ∈ routes, validPattern (pattern r.pattern) := by
  have h := build_spec routes [] Node.empty hls tinv_empty
  rw [show buildFrom Node.empty ([] : List Route).length (routes.map regOf) = some t from hb] at h
  exact h.2

/-- **Refinement.**  For every list of registrations that all succeed (in order), every path
    (arbitrary bytes: "", "*", no leading slash, "//" runs, …) and every method string, the trie
    walk of `findRoute` returns — without panicking — exactly the route the route-list
    specification selects, with `K` = the names of that route and `V` = the texts bound to them;
    when the specification finds nothing, `findRoute` returns nil and leaves `K` empty. -/
theorem trie_refines_routes (routes : List Route) (t : Node)
    (hls : ∀ r ∈ routes, LeadingSlash r.pattern) (hb : build (routes.map regOf) = some t)
    (path method : Bytes) :
    ∃ V', findRoute t path method {} = .ok (match specFind routes path method with
      | some mt => (some mt.id, paramsOf mt)
      | none => (none, { K := [], V := V' })) := by
  exact findRoute_eq (build_tinv hls hb).1 path method

/-- The selected route is a registered one whose method is the request's or `*`; the names bound
    are exactly that route's `:name`s / `*` in pattern order, and `Params.Get` (the lookup behind
    `RouteParam` / `RouteParamAny`) returns for each of them exactly the bound text — and "not
    found" for every other key — without panicking. -/
theorem params_bound_exactly (routes : List Route) (t : Node)
    (hls : ∀ r ∈ routes, LeadingSlash r.pattern) (hb : build (routes.map regOf) = some t)
    (path method : Bytes) (mt : Match) (hs : specFind routes path method = some mt) :
    (∃ r, routes[mt.id]? = some r ∧ (r.method = method ∨ r.method = RouteList.methodAll) ∧
        mt.binds.map (·.1) = pnames (pattern r.pattern)) ∧
    (∀ i (hi : i < mt.binds.length),
        paramsGet (paramsOf mt) (nameKey mt.binds[i].1) = .ok (some mt.binds[i].2)) ∧
    (∀ key, key ∉ (paramsOf mt).K → paramsGet (paramsOf mt) key = .ok none) := by
  obtain ⟨h, hvalid⟩ := build_tinv hls hb
  obtain ⟨r, hr, hm, hb'⟩ := specFind_sound h hs
  refine ⟨⟨r, hr, hm, hb'⟩, ?_, fun key hkey => paramsGet_unbound _ _ key hkey⟩
  -- the names of a registered route are pairwise distinct: it passed the fragment check
  have hK : (paramsOf mt).K = namesOf (pattern r.pattern) := by
    simp only [paramsOf, namesOf, ← hb', List.map_map]; rfl
  have hnd : (paramsOf mt).K.Nodup := by rw [hK]; exact namesOf_nodup _ (hvalid r (List.mem_of_getElem? hr))
  have hlen : (paramsOf mt).K.length = (paramsOf mt).V.length := by simp [paramsOf]
  intro i hi
  have hiK : i < (paramsOf mt).K.length := by simpa [paramsOf] using hi
  have := paramsGet_bound _ _ hlen hnd i hiK
  simpa [paramsOf] using this

/-- `findRoute` never panics — for EVERY trie (also one left behind by refused registrations),
    every path, every method and every incoming `Params`: all slice expressions of the loop are
    in bounds once the missing leading slash has been supplied. -/
theorem findRoute_never_panics (t : Node) (path method : Bytes) (ps : Params) :
    ∃ r, findRoute t path method ps = .ok r :=
  findRoute_ok t path method ps

/-- `parseRoute` never looks at the first byte of the pattern: `"xfoo"` is registered as `"/foo"`. -/
theorem pattern_first_byte_ignored (t : Node) (b : UInt8) (s method : Bytes) (i : RouteId) :
    parseRoute t (b :: s) method i = parseRoute t (47 :: s) method i := by
  unfold parseRoute
  have h1 := parseLoop_start (b :: s)
  have h2 := parseLoop_start (47 :: s)
  simp only [List.length_cons, List.drop_succ_cons, List.drop_zero] at h1 h2
  simp only [List.length_cons, h1, h2]

/-- any history of `Handle` calls (refused ones included): the trie and the routes accepted so far -/
def runHistory : Node → List Route → List Reg → Except GoPanic (Node × List Route)
  | t, ok, [] => .ok (t, ok)
  | t, ok, r :: rs =>
    match parseRoute t r.path r.method ok.length with
    | .error e => .error e
    | .ok ⟨t', .ok _⟩ => runHistory t' (ok ++ [⟨r.path, r.method⟩]) rs
    | .ok ⟨t', .error _⟩ => runHistory t' ok rs

/-- **Registration errors.**  After ANY history of registrations (refused ones included, which
    leave nodes behind), `parseRoute` never panics and refuses a registration exactly when the
    route list says so: unknown method, else empty or repeated `:name`, else a route with the same
    shape (names forgotten) and method already registered; otherwise it reports the number of
    captured values. -/
theorem register_errors (hist : List Reg) (hh : ∀ r ∈ hist, LeadingSlash r.path) :
    ∃ t ok, runHistory Node.empty [] hist = .ok (t, ok) ∧
      ∀ (p m : Bytes) (i : RouteId), LeadingSlash p →
        ∃ t', parseRoute t p m i = .ok ⟨t', (specRegister ok ⟨p, m⟩).mapError errOf⟩ := by
  have gen : ∀ (hist : List Reg) (t0 : Node) (ok0 : List Route) (P : List (List Bytes)),
      (∀ r ∈ hist, LeadingSlash r.path) → TInv (indexFrom 0 ok0) P t0 →
      ∃ t ok P', runHistory t0 ok0 hist = .ok (t, ok) ∧ TInv (indexFrom 0 ok) P' t := by
    intro hist
    induction hist with
    | nil => intro t0 ok0 P _ h; exact ⟨t0, ok0, P, rfl, h⟩
    | cons r rs ih =>
      intro t0 ok0 P hh h
      obtain ⟨t1, hp, hinv⟩ := handle_spec h (hh r (by simp)) r.method ok0.length
      have hh' : ∀ r' ∈ rs, LeadingSlash r'.path := fun r' hr => hh r' (by simp [hr])
      simp only [runHistory, hp]
      cases hs : specRegister ok0 ⟨r.path, r.method⟩ with
      | error e =>
        rw [hs] at hinv
        obtain ⟨P', hinv⟩ := hinv
        exact ih t1 ok0 P' hh' hinv
      | ok n =>
        rw [hs, indexFrom_snoc] at hinv
        exact ih t1 _ P hh' hinv
  obtain ⟨t, ok, P, hrun, hinv⟩ := gen hist Node.empty [] [] hh (by simpa [indexFrom] using tinv_empty)
  exact ⟨t, ok, hrun, fun p m i hp => (handle_spec hinv hp m i).imp fun _ h => h.1⟩

/-- **Exactly one handler.**  `ServeHTTP` on a table of successfully registered routes never
    panics on its own account and invokes exactly one handler exactly once: the handler of the
    route the specification selects (seeing that route's names and bound texts), or the no-route
    handler when the specification selects nothing. -/
theorem exactly_one_handler (routes : List Route) (t : Node)
    (hls : ∀ r ∈ routes, LeadingSlash r.pattern) (hb : build (routes.map regOf) = some t)
    (path method : Bytes) :
    ∃ V', serveHTTP t path method = .ok [match specFind routes path method with
      | some mt => ⟨.route mt.id, paramsOf mt⟩
      | none => ⟨.noRoute, { K := [], V := V' }⟩] := by
  obtain ⟨V', hf⟩ := trie_refines_routes routes t hls hb path method
  refine ⟨V', ?_⟩
  unfold serveHTTP
  rw [hf]
  cases specFind routes path method <;> rfl

/-- on any trie whatsoever `ServeHTTP` runs exactly one handler and does not panic -/
theorem exactly_one_handler_any_trie (t : Node) (path method : Bytes) :
    ∃ c, serveHTTP t path method = .ok [c] := by
  obtain ⟨r, hr⟩ := findRoute_never_panics t path method {}
  unfold serveHTTP
  rw [hr]
  obtain ⟨info, ps⟩ := r
  cases info <;> exact ⟨_, rfl⟩

/-- The hypothesis of `trie_refines_routes` in terms of the route list alone: the registrations
    all succeed iff each one is accepted by `specRegister` after its predecessors. -/
theorem build_succeeds_iff (routes : List Route) (hls : ∀ r ∈ routes, LeadingSlash r.pattern) :
    (build (routes.map regOf)).isSome ↔ AllAccepted [] routes := by
  have h := build_spec routes [] Node.empty hls tinv_empty
  show (buildFrom Node.empty ([] : List Route).length (routes.map regOf)).isSome ↔ _
  generalize buildFrom Node.empty ([] : List Route).length (routes.map regOf) = b at h ⊢
  cases b with
  | some t => exact ⟨fun _ => h.1, fun _ => rfl⟩
  | none => exact ⟨fun hn => Bool.noConfusion hn, fun ha => absurd ha h⟩

deriving instance DecidableEq for Except

/-- `GET /a/:x`, `GET /a/b`, `* /*` -/
def exTable : List Route :=
  [⟨[47, 97, 47, 58, 120], [71, 69, 84]⟩, ⟨[47, 97, 47, 98], [71, 69, 84]⟩, ⟨[47, 42], [42]⟩]

example : ∀ r ∈ exTable, LeadingSlash r.pattern := by decide
example : (build (exTable.map regOf)).isSome = true := by decide
example : AllAccepted [] exTable := by decide
-- `GET /a/b`: the literal wins over `:x`
example : (specFind exTable [47, 97, 47, 98] [71, 69, 84]).map (·.id) = some 1 := by decide
-- `GET a/c` (no leading slash): `:x` is bound to exactly "c"
example : specFind exTable [97, 47, 99] [71, 69, 84] = some ⟨0, [(.named [120], [99])]⟩ := by decide
-- `PUT /x//y/`: `*` with the method `*` binds the rest of the path from the segment's first byte
example : specFind exTable [47, 120, 47, 47, 121, 47] [80, 85, 84] = some ⟨2, [(.star, [120, 47, 47, 121, 47])]⟩ := by decide
-- `PUT /a/b/`: no backtracking — the literal `a` was taken, `/a/b` has no continuation for the final ""
example : specFind exTable [47, 97, 47, 98, 47] [80, 85, 84] = none := by decide
-- refused registrations: unknown method, empty name, repeated name, same shape and method
example : specRegister exTable ⟨[47, 122], [70, 79, 79]⟩ = .error .invalidMethod := by decide
example : specRegister exTable ⟨[47, 58], [71, 69, 84]⟩ = .error .invalidFragment := by decide
example : specRegister exTable ⟨[47, 58, 120, 47, 58, 120], [71, 69, 84]⟩ = .error .invalidFragment := by decide
example : specRegister exTable ⟨[47, 97, 47, 47, 58, 121, 47], [71, 69, 84]⟩ = .error .duplicate := by decide
example : specRegister exTable ⟨[47, 97, 47, 58, 121], [80, 85, 84]⟩ = .ok 1 := by decide
-- a history with refused registrations in it (`register_errors` quantifies over all of them)
example : ∀ r ∈ ([⟨[47, 97, 47, 58, 120, 47, 58, 120], [71, 69, 84]⟩, ⟨[47, 58, 121], [71, 69, 84]⟩] : List Reg),
    LeadingSlash r.path := by decide

end Glb.C04
