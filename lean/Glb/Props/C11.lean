/-
  C11 — IPv4Filter answers membership exactly as the set of CIDRs added and not removed.
-/
import Glb.Proofs.Filter

namespace Glb.C11
open Glb.Filter

/-! ## Specification: a plain set of prefixes -/

/-- a set of abstract prefixes, each a network address (already masked) with a prefix length 0..32 -/
abbrev PSet := List (Addr × Nat)

/-- validated operations: `n = 0` is `0.0.0.0/0` -/
inductive COp where
  | add (a : Addr) (n : Nat)
  | remove (a : Addr) (n : Nat)
  deriving Repr, DecidableEq

def COp.len : COp → Nat
  | .add _ n => n
  | .remove _ n => n

def specStep (S : PSet) : COp → PSet
  | .add a n => (a &&& prefixMask n, n) :: S
  | .remove a n => S.filter (fun e => e ≠ (a &&& prefixMask n, n))

def specRun (ops : List COp) : PSet := ops.foldl specStep []

/-- `ip` lies inside at least one prefix of the set -/
def specMem (S : PSet) (ip : Addr) : Prop := ∃ e ∈ S, ip &&& prefixMask e.2 = e.1

/-! ## Implementation model driven by validated operations -/

def cstep (ls : Nat) (s : St) : COp → St
  | .add a n => if n = 0 then { s with matchAll := true } else addCore ls s a n
  | .remove a n => if n = 0 then { s with matchAll := false } else removeCore s a n

def crun (ls : Nat) (ops : List COp) : St := ops.foldl (cstep ls) init

/-- `Contains` for an already decoded 4-byte address -/
def containsAddr (s : St) (ip : Addr) : Bool := s.matchAll || scan s ip

/-- the simulation relation: the state stands for exactly the abstract set `S`; the `matchAll` flag
    is its member `0.0.0.0/0`, the stored prefixes (lengths 1..32) are the others -/
structure Rel (s : St) (S : PSet) : Prop where
  wf : WF s
  all : s.matchAll = true ↔ ((0 : Addr), 0) ∈ S
  core : ∀ x, x ≠ ((0 : Addr), 0) → (Stored s x ↔ x ∈ S)

theorem and_prefixMask_zero (a : Addr) : a &&& prefixMask 0 = 0 := by
  rw [prefixMask_zero]; exact BitVec.and_zero

theorem rel_step (ls : Nat) {s : St} {S : PSet} {op : COp} (hlen : op.len ≤ 32)
    (h : Rel s S) : Rel (cstep ls s op) (specStep S op) := by
  cases op with
  | add a n =>
    rw [cstep, specStep]
    by_cases hn : n = 0
    · rw [if_pos hn, hn, and_prefixMask_zero]
      exact ⟨⟨h.wf.list, h.wf.maps⟩, iff_of_true rfl List.mem_cons_self,
        fun x hx => by rw [List.mem_cons, or_iff_right hx]; exact h.core x hx⟩
    · have h1 := Nat.pos_of_ne_zero hn
      rw [if_neg hn, ← maskOf_eq n h1 hlen]
      refine ⟨wf_addCore h1 hlen h.wf, ?_, fun x hx => ?_⟩
      · rw [addCore_matchAll, h.all, List.mem_cons, or_iff_right fun e => hn (congrArg Prod.snd e).symm]
      · rw [stored_addCore h1, h.core x hx, List.mem_cons, or_comm]
  | remove a n =>
    rw [cstep, specStep]
    by_cases hn : n = 0
    · rw [if_pos hn, hn, and_prefixMask_zero]
      refine ⟨⟨h.wf.list, h.wf.maps⟩, iff_of_false Bool.false_ne_true ?_, fun x hx => ?_⟩
      · simp
      · rw [List.mem_filter, decide_eq_true_eq, and_iff_left hx]; exact h.core x hx
    · rw [if_neg hn, ← maskOf_eq n (Nat.pos_of_ne_zero hn) hlen]
      refine ⟨wf_removeCore h.wf, ?_, fun x hx => ?_⟩
      · rw [removeCore_matchAll, h.all, List.mem_filter, decide_eq_true_eq,
          and_iff_left fun e => hn (congrArg Prod.snd e).symm]
      · rw [stored_removeCore, h.core x hx, List.mem_filter, decide_eq_true_eq]

theorem rel_run (ls : Nat) {ops : List COp} (hlen : ∀ op ∈ ops, op.len ≤ 32) :
    Rel (crun ls ops) (specRun ops) := by
  suffices h : ∀ (s : St) (S : PSet), Rel s S →
      Rel (ops.foldl (cstep ls) s) (ops.foldl specStep S) from
    h init [] ⟨wf_init, by simp [init], by simp [Stored, init]⟩
  induction ops with
  | nil => exact fun s S h => h
  | cons op ops ih =>
    rw [List.forall_mem_cons] at hlen
    exact fun s S h => ih hlen.2 _ _ (rel_step ls hlen.1 h)

/-- **C11 (core).** For every operation sequence, of any length, and *every* list size
    (so wherever the list→maps switch falls, with removed slots before, at and after it),
    `Contains` answers exactly membership in the set of prefixes added and not since removed. -/
theorem filter_refines_prefix_set (ls : Nat) (ops : List COp)
    (hlen : ∀ op ∈ ops, op.len ≤ 32) (ip : Addr) :
    containsAddr (crun ls ops) ip = true ↔ specMem (specRun ops) ip := by
  have h := rel_run ls hlen
  unfold containsAddr specMem
  rw [Bool.or_eq_true, scan_iff h.wf]
  constructor
  · rintro (hm | ⟨e, he, hc⟩)
    · exact ⟨(0, 0), h.all.1 hm, and_prefixMask_zero ip⟩
    · have hb := h.wf.bounds e he
      exact ⟨e, (h.core e fun h0 => by rw [h0] at hb; exact absurd hb.1 (by decide)).1 he, hc⟩
  · rintro ⟨e, he, hc⟩
    by_cases h0 : e = (0, 0)
    · exact Or.inl (h.all.2 (h0 ▸ he))
    · exact Or.inr ⟨e, (h.core e h0).2 he, hc⟩

/-! ## Byte-level API (`*net.IPNet`, `net.IP`) -/

/-- byte-level operations as the Go API receives them -/
inductive Op where
  | add (ip mask : Bytes)
  | remove (ip mask : Bytes)

def step (ls : Nat) (s : St) : Op → St × Bool
  | .add ip m => Filter.add ls s ip m
  | .remove ip m => Filter.remove s ip m

/-- how argument validation reads an operation: `none` = rejected -/
def decode : Op → Option COp
  | .add ip m => match validate ip m with
    | .invalid => none | .zero => some (.add 0 0) | .pfx a n => some (.add a n)
  | .remove ip m => match validate ip m with
    | .invalid => none | .zero => some (.remove 0 0) | .pfx a n => some (.remove a n)

/-- Rejected arguments return `ErrInvalidIPv4CIDR` (`ok = false`) and change nothing; accepted
    ones perform exactly the validated operation. -/
theorem step_decode (ls : Nat) (s : St) (op : Op) :
    step ls s op = match decode op with
      | none => (s, false)
      | some c => (cstep ls s c, true) := by
  cases op with
  | add ip m | remove ip m =>
    simp only [step, decode, Filter.add, Filter.remove]
    rcases validate_cases ip m with ⟨hv, _⟩ | ⟨hv, _⟩ | ⟨n, hv, _, _, h1, _⟩
    · rw [hv]
    · rw [hv]
      rfl
    · rw [hv]
      simp only [cstep, if_neg (Nat.ne_of_gt h1)]

/-- accepted arguments always carry a prefix length ≤ 32 -/
theorem decode_len (op : Op) (c : COp) (h : decode op = some c) : c.len ≤ 32 := by
  cases op with
  | add ip m | remove ip m =>
    rw [decode] at h
    rcases validate_cases ip m with ⟨hv, _⟩ | ⟨hv, _⟩ | ⟨n, hv, _, _, _, h2⟩
    · rw [hv] at h; cases h
    · rw [hv] at h; cases h; exact Nat.zero_le _
    · rw [hv] at h; cases h; exact h2

/-- every genuine IPv4 CIDR (4-byte address, canonical 4-byte mask of length 0..32) is accepted
    with its prefix length -/
theorem validate_cidr : ∀ n ∈ List.range 33, maskSize (cidrMask n) = (n, 32) := by decide

/-- **validation is sound**: whatever `Add`/`Remove` accept is a genuine IPv4 CIDR — a 4-byte address
    with the canonical 4-byte mask of some length `n ≤ 32` — and is read with exactly that length -/
theorem validate_sound (ip mask : Bytes) (h : validate ip mask ≠ .invalid) :
    ip.length = 4 ∧ ∃ n, n ≤ 32 ∧ mask = cidrMask n ∧
      validate ip mask = (if n = 0 then .zero else .pfx (be32 ip) n) := by
  unfold validate maskSize at h ⊢
  cases hs : simpleMaskLength mask with
  | none => exact absurd rfl (hs ▸ h)
  | some n =>
    rw [hs] at h
    obtain ⟨hm, hn⟩ := simpleMaskLength_sound mask n hs
    dsimp only at h ⊢
    split at h
    · exact absurd rfl h
    · rename_i hc
      have hl : mask.length = 4 := by omega
      exact ⟨by omega, n, by omega, by rw [cidrMask_eq, ← hl]; exact hm, if_neg hc⟩

/-- a 16-byte (IPv4-in-IPv6) address is looked up exactly like its 4-byte form -/
theorem contains_16 (s : St) (a b c d : UInt8) :
    contains s ([0,0,0,0,0,0,0,0,0,0,0xff,0xff] ++ [a, b, c, d]) = contains s [a, b, c, d] := by
  rfl

/-- `contains` on a 4-byte address is `containsAddr` on the decoded address -/
theorem contains_4 (s : St) (a b c d : UInt8) :
    contains s [a, b, c, d] = containsAddr s (be32 [a, b, c, d]) := by
  simp [contains, to4, containsAddr]

/-- documentation of finding F4: on the pinned commit the 16-byte form is never matched by a
    stored range -/
theorem pinned_16_counterexample :
    let s := (Filter.add 256 init [10,0,0,0] [255,0,0,0]).1
    contains s [10,1,2,3] = true ∧
    containsPinned s [0,0,0,0,0,0,0,0,0,0,0xff,0xff,10,1,2,3] = false ∧
    contains s [0,0,0,0,0,0,0,0,0,0,0xff,0xff,10,1,2,3] = true := by decide

/-! ## Non-vacuity -/

example : ∀ op ∈ [COp.add 0x0a000000#32 8, .remove 0x0a000000#32 8, .add 0 0], op.len ≤ 32 := by
  decide

example : specMem (specRun [.add 0x0a010203#32 8, .add 0xc0a80000#32 16, .remove 0xc0a80101#32 16])
    0x0affffff#32 := ⟨(0x0a000000#32, 8), by decide, by decide⟩

end Glb.C11
