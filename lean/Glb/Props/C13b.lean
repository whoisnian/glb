/-
  C13b — the strconv contract of C13 is a theorem about hand models of the real functions.

  C13 (`Glb/Props/C13.lean`) proves the Text-handler round trip for ANY pair `quote` / `unquote` that
  satisfies `QuoteContract`.  Here the pair is instantiated with `goQuote isPrint` / `goUnquote`, the
  function-by-function models of Go's `strconv.AppendQuote` / `strconv.Unquote`
  (`Glb/Model/StrconvQuote.lean`, compared with the real functions by the harness stream `quote`), and
  the contract is PROVED for them, for all byte strings.  What remains assumed about the standard
  library in `text_roundtrip_go` is only the parameter pair `unicode.IsSpace` / `unicode.IsPrint`
  (nothing at all is assumed about the two functions the handler asks) and, for the `IsPrint` that
  `strconv.Quote` consults, `PrintOK`: control characters below U+0020 are not printable.

  Only property theorems and non-vacuity examples live here; lemmas are in Glb/Proofs/StrconvQuote.lean.
-/
import Glb.Props.C13
import Glb.Proofs.StrconvQuote

namespace Glb.C13b
open Glb Glb.Quote Glb.TextTokens Glb.TextHandler Glb.TextExpected Glb.TextProofs

/-- "ASCII printable only" satisfies `PrintOK` -/
theorem asciiPrint_ok : PrintOK asciiPrint where
  ctrl r h := by simp [asciiPrint]; omega

/-- Go's explicit Latin-1 rule satisfies `PrintOK` whatever the tables say beyond U+00FF -/
theorem latin1Print_ok (hi : Nat → Bool) : PrintOK (latin1Print hi) where
  ctrl r h := by simp [latin1Print, show r ≤ 0xFF by omega]; omega

/-- the shortcut inside `Unquote` (interior without backslash / newline that is valid UTF-8 is returned as
    it stands) never changes the answer: on every input `Unquote` is the escape loop -/
theorem unquote_shortcut_sound (s : Bytes) : goUnquote s = slowUnquote s := by
  match s with
  | [] => rfl
  | [q] => simp [goUnquote, slowUnquote, unquoteLoop]
  | q :: b :: t =>
    by_cases hq : q = 0x22
    · subst hq
      have hi := indexByte_split 0x22 (b :: t)
      simp only [goUnquote, slowUnquote, List.length_cons, bne_self_eq_false, Bool.false_eq_true, if_false]
      rw [if_neg (by omega)]
      generalize indexByte 0x22 (b :: t) = i at hi ⊢
      cases i with
      | none => rw [unquoteLoop_none _ 0 hi]
      | some e =>
        dsimp only
        split
        · rename_i hfast
          simp only [Bool.and_eq_true, Bool.not_eq_true', List.contains_eq_mem, decide_eq_false_iff_not] at hfast
          have hc := (unquoteLoop_valid _ 0 hfast.2 hfast.1.1 hfast.1.2 hi.2).quote (List.drop (e + 1) (b :: t))
          rw [List.drop_zero, ← hi.1] at hc
          rw [hc]
        · rfl
    · simp [goUnquote, slowUnquote, hq]

/-- **go_roundtrip.**  `strconv.Unquote(strconv.Quote(s)) = s` for ALL byte strings `s` (invalid UTF-8,
    control bytes, quotes, backslashes, surrogate patterns, … included) and every `IsPrint` that calls no
    control character printable. -/
theorem go_roundtrip {isPrint : Nat → Bool} (hP : PrintOK isPrint) (s : Bytes) :
    goUnquote (goQuote isPrint s) = some s := by
  rw [unquote_shortcut_sound]
  simp [goQuote, slowUnquote, (quoteLoop_unit hP s 0).1.quote []]

/-- **go_shape.**  `strconv.Quote(s)` is `"` + interior + `"`, and the interior contains no byte below
    0x20 (in particular no newline), no `"` that is not taken by a preceding backslash, and does not end
    in a dangling backslash. -/
theorem go_shape {isPrint : Nat → Bool} (hP : PrintOK isPrint) (s : Bytes) :
    ∃ body, goQuote isPrint s = 0x22 :: body ++ [0x22] ∧ interiorOK false body = true :=
  ⟨quoteLoop isPrint 0 s, rfl, by simpa [interiorOK] using (quoteLoop_unit hP s 0).2 []⟩

/-- `strconv.Unquote("\"\"") = ""` -/
theorem go_empty : goUnquote [0x22, 0x22] = some [] := by decide

/-- **go_contract.**  The hypothesis bundle of C13 holds for the models of the real functions. -/
theorem go_contract {isPrint : Nat → Bool} (hP : PrintOK isPrint) :
    QuoteContract (goQuote isPrint) goUnquote where
  shape := go_shape hP
  roundtrip := go_roundtrip hP
  empty := go_empty

/-- `AppendQuote(dst, s)` leaves `dst` alone and appends `Quote(s)` -/
theorem appendQuote_eq (isPrint : Nat → Bool) (dst s : Bytes) :
    appendQuote isPrint dst s = dst ++ goQuote isPrint s := rfl

/-- the output of `Quote` is on one line and nothing before the final byte closes it: the specification
    tokenizer's scanner stops exactly at the closing quote (whatever follows) -/
theorem go_quote_scans {isPrint : Nat → Bool} (hP : PrintOK isPrint) (s rest : Bytes) :
    ∃ body, goQuote isPrint s = 0x22 :: body ++ [0x22] ∧
      scanQuoted false (body ++ 0x22 :: rest) = some (body, rest) := by
  obtain ⟨body, h1, h2⟩ := go_shape hP s
  exact ⟨body, h1, scanQuoted_interior rest body false h2⟩

/-- a well-formed multi-byte sequence at the head of the input, decoded and encoded again, is that
    sequence; the rune is a scalar value ≥ U+0080 -/
theorem utf8_encode_decode (b : UInt8) (rest : Bytes) (h : 2 ≤ (Utf8.decodeRune (b :: rest)).2) :
    Utf8.encodeRune (Utf8.decodeRune (b :: rest)).1 = (b :: rest).take (Utf8.decodeRune (b :: rest)).2 ∧
    0x80 ≤ (Utf8.decodeRune (b :: rest)).1 ∧ validRune (Utf8.decodeRune (b :: rest)).1 = true :=
  let M := Utf8.decode_multi b rest h
  ⟨M.enc, M.ge, (validRune_iff _).mpr M.scalar⟩

/-- every scalar value (not a surrogate, ≤ U+10FFFF), encoded, decodes to itself with the length of its
    encoding, whatever follows -/
theorem utf8_decode_encode (r : Nat) (hv : validRune r = true) (X : Bytes) :
    Utf8.decodeRune (Utf8.encodeRune r ++ X) = (r, (Utf8.encodeRune r).length) :=
  Utf8.decode_encode r ((validRune_iff r).mp hv) X

/-- the standard library as the handler model sees it, with the modelled `strconv.Quote` -/
def goStd (isSpace isPrint qPrint : Nat → Bool) : Std :=
  { isSpace := isSpace, isPrint := isPrint, quote := goQuote qPrint }

/-- **text_roundtrip_go.**  `C13.text_roundtrip` with `strconv.Quote` / `strconv.Unquote` replaced by their
    models: for every `unicode.IsSpace`, `unicode.IsPrint` (arbitrary functions), every `IsPrint` used by
    `strconv.Quote` satisfying `PrintOK`, every derivation chain, record, source on/off and valid level,
    `Handle` does not panic and the specification tokenizer — which here decodes quoted tokens with the
    model of `strconv.Unquote` — splits the line into exactly time, level, (source,) msg and every
    attribute leaf with its dotted path and value text.  The strconv contract is not a hypothesis here. -/
theorem text_roundtrip_go (isSpace isPrint qPrint : Nat → Bool) (hP : PrintOK qPrint)
    (addSource : Bool) (chain : List Op) (r : Record)
    (hl : validLevel r.level)
    (ht : bareTok (lexOf (goStd isSpace isPrint qPrint) goUnquote) r.time)
    (hraw : ∀ e ∈ flat chain r, leafOK (lexOf (goStd isSpace isPrint qPrint) goUnquote) e.2) :
    ∃ line, handle (goStd isSpace isPrint qPrint) addSource (derive (goStd isSpace isPrint qPrint) chain) r = .ok line ∧
      tokenize (lexOf (goStd isSpace isPrint qPrint) goUnquote) line = some (expected addSource chain r) :=
  C13.text_roundtrip (goStd isSpace isPrint qPrint) goUnquote (go_contract hP) addSource chain r hl ht hraw

/-- **one_line_go.**  Under the hypotheses of `text_roundtrip_go` the output is exactly one line. -/
theorem one_line_go (isSpace isPrint qPrint : Nat → Bool) (hP : PrintOK qPrint)
    (addSource : Bool) (chain : List Op) (r : Record)
    (hl : validLevel r.level)
    (ht : bareTok (lexOf (goStd isSpace isPrint qPrint) goUnquote) r.time)
    (hraw : ∀ e ∈ flat chain r, leafOK (lexOf (goStd isSpace isPrint qPrint) goUnquote) e.2) :
    ∃ body, handle (goStd isSpace isPrint qPrint) addSource (derive (goStd isSpace isPrint qPrint) chain) r
        = .ok (body ++ [0x0a]) ∧ (0x0a : UInt8) ∉ body :=
  C13.one_line (goStd isSpace isPrint qPrint) goUnquote (go_contract hP) addSource chain r hl ht hraw

/-- the case of one `IsPrint` for the handler and for `strconv.Quote` (the harness checks on every rune
    that `unicode.IsPrint` and `strconv.IsPrint` agree) -/
theorem text_roundtrip_go_same (isSpace isPrint : Nat → Bool) (hP : PrintOK isPrint)
    (addSource : Bool) (chain : List Op) (r : Record)
    (hl : validLevel r.level)
    (ht : bareTok (lexOf (goStd isSpace isPrint isPrint) goUnquote) r.time)
    (hraw : ∀ e ∈ flat chain r, leafOK (lexOf (goStd isSpace isPrint isPrint) goUnquote) e.2) :
    ∃ line, handle (goStd isSpace isPrint isPrint) addSource (derive (goStd isSpace isPrint isPrint) chain) r = .ok line ∧
      tokenize (lexOf (goStd isSpace isPrint isPrint) goUnquote) line = some (expected addSource chain r) :=
  text_roundtrip_go isSpace isPrint isPrint hP addSource chain r hl ht hraw

/- NBSP, NEL, LINE SEPARATOR are spaces; Go's Latin-1 rule, and beyond it everything except U+FEFF,
   U+2028 is printable -/
def isSpace0 (r : Nat) : Bool := r == 0xA0 || r == 0x85 || r == 0x2028
def isPrint0 : Nat → Bool := latin1Print fun r => !(r == 0xFEFF || r == 0x2028)

example : PrintOK isPrint0 := latin1Print_ok _

/-- the hypotheses of `text_roundtrip_go` are satisfiable together, on C13's hostile record (message
    `\xff"\n =`, empty / inline groups, a key that is U+00A0, a panicking marshaler, source on) -/
example : ∃ line, handle (goStd isSpace0 isPrint0 isPrint0) true (derive (goStd isSpace0 isPrint0 isPrint0) C13.chain0) C13.rec0 = .ok line ∧
    tokenize (lexOf (goStd isSpace0 isPrint0 isPrint0) goUnquote) line = some (expected true C13.chain0 C13.rec0) :=
  text_roundtrip_go isSpace0 isPrint0 isPrint0 (latin1Print_ok _) true C13.chain0 C13.rec0 (by decide) (by decide) (by decide)

/-- `Quote("\xff\"\n =é \U0001F600")` = `"\xff\"\n =é 😀"` (é and the emoji verbatim, U+2028 as `\u2028`) -/
example : goQuote isPrint0 [0xff, 0x22, 0x0a, 0x20, 0x3d, 0xc3, 0xa9, 0xe2, 0x80, 0xa8, 0xf0, 0x9f, 0x98, 0x80] =
    [0x22, 0x5c, 0x78, 0x66, 0x66, 0x5c, 0x22, 0x5c, 0x6e, 0x20, 0x3d, 0xc3, 0xa9,
     0x5c, 0x75, 0x32, 0x30, 0x32, 0x38, 0xf0, 0x9f, 0x98, 0x80, 0x22] := by decide

/-- with "ASCII printable only" `é😀` is written `\u00e9\U0001f600` -/
example : goQuote asciiPrint [0xc3, 0xa9, 0xf0, 0x9f, 0x98, 0x80] =
    [0x22, 0x5c, 0x75, 0x30, 0x30, 0x65, 0x39, 0x5c, 0x55, 0x30, 0x30, 0x30, 0x31, 0x66, 0x36, 0x30, 0x30, 0x22] := by
  decide

/- `Unquote` rejects `"\'"`, `"\400"`, `"\xZZ"`, a raw newline, a raw quote, `\ud800`, a missing closing
   quote and trailing text; it accepts `"\'"`-free escapes of every kind; a raw invalid byte becomes U+FFFD -/
example : ([[0x22, 0x5c, 0x27, 0x22], [0x22, 0x5c, 0x34, 0x30, 0x30, 0x22], [0x22, 0x5c, 0x78, 0x5a, 0x5a, 0x22],
    [0x22, 0x0a, 0x22], [0x22, 0x22, 0x22], [0x22, 0x5c, 0x75, 0x64, 0x38, 0x30, 0x30, 0x22], [0x22, 0x61],
    [0x22, 0x61, 0x22, 0x62], [0x22], []].map goUnquote).all Option.isNone = true := by decide
example : goUnquote [0x22, 0x5c, 0x78, 0x34, 0x31, 0x5c, 0x75, 0x30, 0x30, 0x45, 0x39, 0x5c, 0x31, 0x30, 0x31, 0x5c, 0x74, 0x22]
    = some [0x41, 0xc3, 0xa9, 0x41, 0x09] := by decide
example : goUnquote [0x22, 0xff, 0x22] = some [0xef, 0xbf, 0xbd] := by decide
example : goUnquote [0x22, 0x5c, 0x78, 0x66, 0x66, 0x22] = some [0xff] := by decide

end Glb.C13b
