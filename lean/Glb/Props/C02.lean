/-
  C02 — Logging is atomic per record: one Write, one whole line, never interleaved.
  Helper lemmas are in Glb/Proofs/LogSys.lean; besides the property theorems only the demonstration
  schedule (`sched`, `demoFinal`) lives here.

  Setting (Glb/Model/LogSys.lean): any number of goroutines, each running any program of
  `log handler level rec` / `derive` calls; one call = gate → getBuf → format → lock → Write
  (enter … leave) → unlock → freeBuf; one mutex shared by the root handler and all clones; a
  buffer pool from which `getBuf` takes ANY buffer (or a fresh one) and which may lose buffers at
  any time; any `maxBuf`, any initial capacity, any growth of the line buffer; `render h r` = the
  line the record produces when logged alone (any function, so any sizes — also lines larger than
  the pool limit).  All theorems quantify over all `Reachable` states, i.e. all interleavings.
-/
import Glb.Proofs.LogSys

namespace Glb.C02
open Glb.LogSys

/-- **`writes_never_overlap`.**  In every reachable state the goroutine inside `Write` holds the
    mutex, and no `Write` was ever entered while another one was in progress. -/
theorem writes_never_overlap (P : Params) (progs : List (List Op)) (s : St)
    (h : Reachable P progs s) :
    (∀ g, s.inWrite = some g → s.owner = some g) ∧ s.overlap = false :=
  ⟨(invt_reachable h).writerOwns, (invt_reachable h).noOverlap⟩

/-- … hence at most one goroutine is inside `Write` at any time. -/
theorem at_most_one_writer (P : Params) (progs : List (List Op)) (s : St)
    (h : Reachable P progs s) (g₁ g₂ : Nat) (x₁ x₂ : GState)
    (h₁ : s.gs[g₁]? = some x₁) (h₂ : s.gs[g₂]? = some x₂)
    (p₁ : x₁.pc = .leave) (p₂ : x₂.pc = .leave) : g₁ = g₂ := by
  have inv := invt_reachable h
  exact Option.some.inj (((inv.loc g₁ x₁ h₁).writes.1 p₁).symm.trans ((inv.loc g₂ x₂ h₂).writes.1 p₂))

/-- **`pool_clean`.**  Every pooled buffer has length 0, so a recycled buffer cannot pollute a
    line — for every `maxBuf`, whatever buffers were dropped or lost. -/
theorem pool_clean (P : Params) (progs : List (List Op)) (s : St) (h : Reachable P progs s) :
    ∀ b ∈ s.pool, b.data.length = 0 :=
  fun b hb => congrArg List.length ((invt_reachable h).pool b hb)

/-- what a goroutine hands to `Write` is exactly its record's own line: inside `Write` the buffer
    holds `render handler rec`, nothing before it, nothing after it -/
theorem write_payload_is_own_line (P : Params) (progs : List (List Op)) (s : St)
    (h : Reachable P progs s) (g : Nat) (x : GState) (hg : s.gs[g]? = some x) (hp : x.pc = .leave) :
    ∃ c rest, x.prog = .log c :: rest ∧ P.threshold ≤ c.level ∧
      x.buf.data = P.render c.handler c.rid := by
  rcases ((invt_reachable h).loc g x hg).call with h0 | ⟨c, rest, h1, h2, _, h4⟩
  · rw [hp] at h0; cases h0
  · exact ⟨c, rest, h1, h2, h4 (Or.inr (Or.inr hp))⟩

/-- **`one_write_per_enabled_record`.**  When all goroutines have finished, the destination log is
    a permutation of the sequential renderings of the logged records with level ≥ threshold: each
    exactly once, whole, byte-equal to what it would be if logged alone (`expected` lists
    `(handler, rec, render handler rec)` for exactly the `log` calls at an enabled level). -/
theorem one_write_per_enabled_record (P : Params) (progs : List (List Op)) (s : St)
    (h : Reachable P progs s) (hfin : Finished s) :
    List.Perm (s.dest.map Entry.key) (expected P progs) := by
  have hz : (s.gs.map (todo P)).flatten = [] := by
    rw [List.flatten_eq_nil_iff]
    intro l hl
    obtain ⟨x, hx, rfl⟩ := List.mem_map.1 hl
    exact todo_nil (hfin x hx)
  have hacct := acct_reachable h
  rwa [Acct, hz, List.append_nil] at hacct

/-- … so the number of `Write` calls equals the number of enabled records -/
theorem write_count (P : Params) (progs : List (List Op)) (s : St)
    (h : Reachable P progs s) (hfin : Finished s) :
    s.dest.length = (expected P progs).length :=
  List.length_map (f := Entry.key) ▸ (one_write_per_enabled_record P progs s h hfin).length_eq

/-- **nothing below the threshold, nothing foreign, nothing partial** — at every moment, not only
    at the end: each completed `Write` carries the complete line of one `log` call of some program
    whose level is ≥ the threshold. -/
theorem every_write_is_an_enabled_record (P : Params) (progs : List (List Op)) (s : St)
    (h : Reachable P progs s) (e : Entry) (he : e ∈ s.dest) :
    ∃ p ∈ progs, ∃ c, Op.log c ∈ p ∧ P.threshold ≤ c.level ∧
      e.handler = c.handler ∧ e.rid = c.rid ∧ e.bytes = P.render c.handler c.rid := by
  have hk : e.key ∈ expected P progs :=
    (acct_reachable h).subset (List.mem_append_left _ (List.mem_map_of_mem he))
  obtain ⟨_, hl, hkl⟩ := List.mem_flatten.1 hk
  obtain ⟨p, hp, rfl⟩ := List.mem_map.1 hl
  obtain ⟨c, hc, hlv, hkey⟩ := mem_pending hkl
  exact ⟨p, hp, c, hc, hlv, congrArg (·.1) hkey, congrArg (·.2.1) hkey, congrArg (·.2.2) hkey⟩

/-- a program all of whose records are below the threshold causes no `Write` at all -/
theorem below_threshold_no_write (P : Params) (progs : List (List Op)) (s : St)
    (h : Reachable P progs s)
    (hlow : ∀ p ∈ progs, ∀ c, Op.log c ∈ p → c.level < P.threshold) : s.dest = [] :=
  List.eq_nil_iff_forall_not_mem.2 fun e he =>
    let ⟨p, hp, c, hc, hlv, _⟩ := every_write_is_an_enabled_record P progs s h e he
    Int.not_le.2 (hlow p hp c hc) hlv

/-! ## Non-vacuity: a concrete system, explored exhaustively by evaluation -/

/-- lines of different sizes; the pool limit is 4 so the second is "oversized" -/
def demoRender : Nat → Nat → Bytes
  | _, 0 => [0x61, 0x0A]
  | _, 1 => [0x62, 0x62, 0x62, 0x62, 0x62, 0x62, 0x0A]
  | h, _ => [0x63, UInt8.ofNat h, 0x0A]

def demoP : Params := { threshold := 4, render := demoRender, maxBuf := 4, initCap := 2, grow := fun _ _ => 0 }

/-- root logger in goroutine 0 (one record below the threshold), a derived logger in goroutine 1 -/
def demoProgs : List (List Op) :=
  [[.log ⟨0, 4, 0⟩, .log ⟨0, 0, 9⟩, .log ⟨0, 8, 1⟩], [.derive 0, .log ⟨1, 12, 2⟩]]

/-- run a schedule: at each step take the last listed enabled step of the named goroutine
    (at `getBuf`: the pooled buffer with the highest index, a fresh one only if the pool is empty) -/
def sched (P : Params) : St → List Nat → St
  | s, [] => s
  | s, g :: rest =>
    match (enabled P s).reverse.find? (fun ls => match ls.1 with | .go g' _ => g' == g | _ => false) with
    | some (_, s') => sched P s' rest
    | none => sched P s rest

theorem sched_reachable (P : Params) (progs : List (List Op)) :
    ∀ (l : List Nat) (s : St), Reachable P progs s → Reachable P progs (sched P s l) := by
  intro l s h
  fun_induction sched P s l with
  | case1 => exact h
  | case2 s g rest l' s' hf ih =>
    exact ih (Reachable.step h (List.mem_reverse.1 (List.mem_of_find?_eq_some hf)))
  | case3 s g rest hf ih => exact ih h

/-- an interleaving in which goroutine 1 formats its line while goroutine 0 is inside Write -/
def demoSchedule : List Nat :=
  [0, 0, 0, 0, 0, 1, 1, 1, 1, 0, 0, 1, 1, 1, 1, 1, 0, 0, 0, 0, 0, 0, 0, 0, 0, 0]

def demoFinal : St := sched demoP (St.init demoProgs) demoSchedule

example : Reachable demoP demoProgs demoFinal := sched_reachable _ _ _ _ Reachable.init

/-- the run is evaluated once (by the kernel); the examples below read the result off -/
theorem demoFinal_eval :
    demoFinal.gs.all (fun x => x.prog.isEmpty) = true ∧
    demoFinal.dest.map Entry.key =
      [(0, 0, demoRender 0 0), (1, 2, demoRender 1 2), (0, 1, demoRender 0 1)] ∧
    demoFinal.pool.map (fun b => (b.data.length, b.cap)) = [(0, 2)] := by decide

/-- the hypotheses of `one_write_per_enabled_record` are satisfiable: this run finishes … -/
example : demoFinal.gs.all (fun x => x.prog.isEmpty) = true := demoFinal_eval.1
/-- … the destination holds exactly the three enabled records (nothing for record 9) … -/
example : demoFinal.dest.map Entry.key =
    [(0, 0, demoRender 0 0), (1, 2, demoRender 1 2), (0, 1, demoRender 0 1)] := demoFinal_eval.2.1
example : expected demoP demoProgs =
    [(0, 0, demoRender 0 0), (0, 1, demoRender 0 1), (1, 2, demoRender 1 2)] := by decide
/-- … the 3-byte buffer was recycled for the 7-byte line, grew beyond the limit and was dropped;
    what remains pooled is empty -/
example : demoFinal.pool.map (fun b => (b.data.length, b.cap)) = [(0, 2)] := demoFinal_eval.2.2
/-- the mutex really blocks: with goroutine 0 inside Write, goroutine 1 at `lock` has no step -/
example : ((enabled demoP (sched demoP (St.init demoProgs) [0, 0, 0, 0, 0, 1, 1, 1, 1])).filter
    (fun ls => match ls.1 with | .go 1 _ => true | _ => false)).length = 0 := by decide

end Glb.C02
