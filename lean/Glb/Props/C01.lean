/-
  C01 — JSON handler: every record is one valid, faithful JSON line.

  Model:  `Glb/Model/JsonHandler.lean` (mirrors /repo/logger/json_handler.go, colour off).
  Spec:   `Glb/Spec/Json.lean` (RFC 8259 grammar `IsJson`, `san`, `expected`, contract predicates).
  Lemmas: `Glb/Proofs/JsonString.lean`, `Glb/Proofs/Json.lean`, `Glb/Proofs/JsonHandler.lean`.

  What is assumed (explicit contract of the stdlib results that the model receives as payloads,
  `LeafOk` / `RecOk`): strconv texts are JSON numbers, `time.AppendFormat(RFC3339Nano)` texts are
  printable ASCII without `"` and `\`, successful `json.Encoder` outputs are JSON texts without a
  newline.  NOTHING is assumed about messages, keys, group names, string values, error messages,
  panic messages, file names: they are arbitrary byte strings.
-/
import Glb.Proofs.JsonHandler

namespace Glb.C01
open Glb Glb.JsonHandler Glb.Json

/-! ### strings -/

/-- For every byte string `s`: `"` ++ appendJsonString s ++ `"` is a JSON string literal that decodes
    (all escapes processed) to `san s` — `s` with each byte that is not part of a well-formed UTF-8
    sequence replaced by U+FFFD; the bytes written contain no byte below 0x20 (no raw control
    character, in particular no newline), and they are well-formed UTF-8. -/
theorem jsonString_faithful (s : Bytes) :
    IsJsonString (quote s) (san s) ∧
    (∀ b ∈ appendJsonString s, 0x20 ≤ b) ∧
    WellFormedUtf8 (appendJsonString s) := by
  have h := JsonString.ajs_PStr s []
  refine ⟨⟨appendJsonString s ++ [0x22], by simp [quote], h⟩, JsonString.ajs_ge s, ?_⟩
  obtain ⟨body, hb, hw⟩ := h.wellFormed
  exact List.append_cancel_right hb ▸ hw

/-- in particular the escaped string never contains a newline -/
theorem jsonString_no_newline (s : Bytes) : 0x0A ∉ appendJsonString s := by
  intro h
  have := (jsonString_faithful s).2.1 _ h
  exact absurd this (by decide)

/-! ### separator bookkeeping -/

/-- The comma bookkeeping of `appendJsonAttr` (flag passed in, flag returned, nested loops, inline and
    empty groups) equals the canonical `,`-join of the flattened member list, for both values of
    `addSep`; the returned flag is "wrote at least one member". -/
theorem attr_render (a : Attr) (ha : AttrOk a) (buf : Bytes) (addSep : Bool) :
    appendJsonAttr buf a addSep =
      (buf ++ serSep appendJsonString addSep (membersSrc a), !(membersSrc a).isEmpty) :=
  attr_render' a ha buf addSep

/-- the same for the loops of `WithAttrs`, `Handle` and of groups: state `(buf, addSep, wrote)` -/
theorem attrs_render (as : List Attr) (has : AttrsOk as) (buf : Bytes) (addSep wrote : Bool) :
    attrLoop buf as addSep wrote =
      (buf ++ serSep appendJsonString addSep (membersSrcL as),
       addSep || !(membersSrcL as).isEmpty, wrote || !(membersSrcL as).isEmpty) :=
  attrLoop_render' as has buf addSep wrote

/-! ### the canonical serializer -/

/-- Generic: if the quoting function `q` produces string literals decoding to `dec`, the canonical
    serializer's output is a JSON text denoting the tree it was built from (strings decoded). -/
theorem ser_isJson (q dec : Bytes → Bytes) (hq : ∀ s r, PStr (q s ++ 0x22 :: r) (dec s) r)
    (t : JV) (ht : t.Ok) : IsJson (ser q t) (t.mapStr dec) := by
  simpa [IsJson] using ser_P q dec hq t ht []

/-- with the handler's quoting: strings come back sanitised -/
theorem ser_isJson_handler (t : JV) (ht : t.Ok) : IsJson (ser appendJsonString t) (t.mapStr san) :=
  ser_isJson appendJsonString san JsonString.ajs_PStr t ht

/-- every JSON text passes the executable recogniser `shapeOk` (used to refute validity by `decide`) -/
theorem shapeOk_complete (b : Bytes) (v : JV) (h : IsJson b v) : shapeOk b = true := by
  have : shapeRun (some (.val, [])) b = _ := shape_P h (Or.inl rfl) []
  simp [shapeOk, shapeRun, this]

/-! ### the line -/

/-- **C01.** For every derivation chain (any list of `WithAttrs as` / `WithGroup g`; the theorem does not
    even need `g ≠ ""`), every record (arbitrary message, any of the five levels, any attribute tree
    with nested / inline / empty groups), `addSource` on or off: `Handle` writes `body ++ "\n"`, `body`
    contains no newline, and `body` is a JSON text denoting exactly `expected addSource chain r`
    (ordered members, every string decoded and equal to the sanitised original). -/
theorem C01_line (addSource : Bool) (chain : List Deriv) (r : Rec)
    (hchain : ChainOk chain) (hrec : RecOk r) (hlevel : validLevel r.level = true) :
    ∃ body, handle addSource (deriveAll H.init chain) r = .ok (body ++ [0x0A]) ∧
      0x0A ∉ body ∧ IsJson body (expected addSource chain r) := by
  have hok := expectedSrc_ok addSource chain r hchain hrec
  exact ⟨ser appendJsonString (expectedSrc addSource chain r),
    handle_eq_ser addSource chain r hchain hrec hlevel,
    ser_noNL appendJsonString jsonString_no_newline _ hok,
    ser_isJson_handler _ hok⟩

/-- `Handle` never panics on a valid level (the only index expression is `labelList[level+2]`) -/
theorem handle_no_panic (addSource : Bool) (h : H) (r : Rec) (hlevel : validLevel r.level = true) :
    ∃ out, handle addSource h r = .ok out := by
  simp [handle, (level_ok hlevel).1, bind, Except.bind, pure, Except.pure]

/-! ### source file -/

/-- The loop of `appendJsonSource` keeps exactly the last two path components `a/b` of `pre/a/b`
    (for every prefix `pre`, the empty one included). -/
theorem source_last_two (pre a b : Bytes) (ha : 0x2F ∉ a) (hb : 0x2F ∉ b) :
    trimSource (pre ++ 0x2F :: a ++ 0x2F :: b) = a ++ 0x2F :: b := by
  generalize hf : pre ++ 0x2F :: a ++ 0x2F :: b = file
  have h1 : file[pre.length]? = some 0x2F := by subst hf; simp
  have h2 : file[(pre ++ 0x2F :: a).length]? = some 0x2F := by
    rw [← hf, List.getElem?_append_right (Nat.le_refl _), Nat.sub_self]
    rfl
  have hlen : file.length - 1 = (pre ++ 0x2F :: a).length + b.length := by subst hf; simp; omega
  have hne : file.isEmpty = false := by subst hf; simp
  -- down over `b`, the second `/`, down over `a`, and the first `/` (or index 0) ends the loop
  rw [trimSource, hne, hlen, sourceLoop_pass file false b (pre ++ 0x2F :: a) 0x2F [] (by simp [← hf]) hb]
  rw [List.length_append, List.length_cons, ← Nat.add_assoc] at h2 ⊢
  rw [sourceLoop_slash file _ false h2,
    sourceLoop_pass file true a pre 0x2F (0x2F :: b) (by simp [← hf]) ha]
  have : sourceLoop file pre.length true = pre.length := by
    cases hp : pre.length with
    | zero => rfl
    | succ n => rw [sourceLoop_slash file n true (hp ▸ h1)]; rfl
  rw [this]
  subst hf
  simp

/-- the slice expression `f.File[idx+1:]` is always in bounds (the model's `drop` totalises nothing) -/
theorem source_slice_in_bounds (file : Bytes) (h : file ≠ []) :
    sourceLoop file (file.length - 1) false + 1 ≤ file.length := by
  have := sourceLoop_le file (file.length - 1) false
  have : 0 < file.length := List.length_pos_iff.mpr h
  omega

/-! ### non-vacuity -/

def kBad : Bytes := [0xFF, 0x22, 0x0A]   -- \xff " \n

/- `With(Group(""))`, `WithGroup("g")`, `With("a", 1, Group(""))`, then a record with an attribute,
   an inline empty group after it, a key `\xff"\n`, a keyed group holding only an empty inline group,
   an encoder payload, a typed-nil error, a time value and a failed encoder call whose message has a
   newline. -/
def exChain : List Deriv :=
  [.attrs [.group [] []], .group [0x67], .attrs [.leaf [0x61] (.num [0x31]), .group [] []]]

def exRec : Rec :=
  { time := [0x32, 0x30, 0x32, 0x33], level := 4, file := [0x2F, 0x61, 0x2F, 0x62, 0x2F, 0x63], line := [0x37],
    msg := [0x6D, 0xC0, 0x22],
    attrs := [.leaf [0x6B] (.num [0x2D, 0x31]), .group [] [], .leaf kBad (.bool true),
              .group [0x65] [.group [] []], .leaf [] (.enc (.ok nullText)), .leaf [0x70] .panicNil,
              .leaf [0x74] (.time [0x32, 0x30, 0x32, 0x33, 0x2D, 0x30, 0x31]),
              .leaf [0x78] (.enc (.error [0x62, 0x61, 0x64, 0x0A]))] }

example : ∃ body, handle true (deriveAll H.init exChain) exRec = .ok (body ++ [0x0A]) ∧
    0x0A ∉ body ∧ IsJson body (expected true exChain exRec) := by
  refine C01_line true exChain exRec ?_ ?_ (by decide)
  · simp [exChain, ChainOk, DerivOk, AttrsOk, AttrOk, LeafOk]; decide
  · refine ⟨by decide, by decide, ?_⟩
    simp only [exRec, AttrsOk, AttrOk, LeafOk, and_true, true_and]
    exact ⟨by decide, ⟨⟨.null, P.null []⟩, by decide⟩, by decide⟩

/-- the model really produces the bytes one expects on that input (evaluated by the kernel) -/
example : (handle false (deriveAll H.init [.attrs [.group [] []]])
      { time := [0x54], level := 4, msg := [0x6D], attrs := [.leaf [0x6B] (.num [0x31])] }) =
    .ok [0x7B, 0x22, 0x74, 0x69, 0x6D, 0x65, 0x22, 0x3A, 0x22, 0x54, 0x22, 0x2C, 0x22, 0x6C, 0x65, 0x76, 0x65,
      0x6C, 0x22, 0x3A, 0x22, 0x49, 0x4E, 0x46, 0x4F, 0x22, 0x2C, 0x22, 0x6D, 0x73, 0x67, 0x22, 0x3A, 0x22,
      0x6D, 0x22, 0x2C, 0x22, 0x6B, 0x22, 0x3A, 0x31, 0x7D, 0x0A] := by rfl

/-! ### the finding on the pinned commit (documentation) -/

/-- `{"time":"2023-08-16T00:35:15Z","level":"INFO","msg":"m"` -/
def pinnedHead : Bytes :=
  [0x7B, 0x22, 0x74, 0x69, 0x6D, 0x65, 0x22, 0x3A, 0x22, 0x32, 0x30, 0x32, 0x33, 0x2D, 0x30, 0x38, 0x2D, 0x31,
   0x36, 0x54, 0x30, 0x30, 0x3A, 0x33, 0x35, 0x3A, 0x31, 0x35, 0x5A, 0x22, 0x2C, 0x22, 0x6C, 0x65, 0x76, 0x65,
   0x6C, 0x22, 0x3A, 0x22, 0x49, 0x4E, 0x46, 0x4F, 0x22, 0x2C, 0x22, 0x6D, 0x73, 0x67, 0x22, 0x3A, 0x22, 0x6D,
   0x22]

/-- The separator logic of the pinned commit (separator written before looking at the attribute, callers
    set `addSep := true` unconditionally — `JsonHandler.Pinned`) renders
    `logger.With(slog.Group("")).Info("m", "k", 1)` as `…"msg":"m",,"k":1}`, which is not a JSON text. -/
theorem C01_pinned_counterexample :
    Pinned.line pinnedHead [.group [] []] [.leaf [0x6B] (.num [0x31])] =
      pinnedHead ++ [0x2C, 0x2C, 0x22, 0x6B, 0x22, 0x3A, 0x31, 0x7D] ∧
    ¬ ∃ v, IsJson (Pinned.line pinnedHead [.group [] []] [.leaf [0x6B] (.num [0x31])]) v := by
  refine ⟨by decide, ?_⟩
  rintro ⟨v, hv⟩
  have := shapeOk_complete _ v hv
  revert this
  decide

/-- … whereas the repaired logic writes a single comma on the same input -/
theorem C01_repaired_same_input :
    (attrLoop (withAttrs { pre := pinnedHead } [.group [] []]).pre [.leaf [0x6B] (.num [0x31])]
      (withAttrs { pre := pinnedHead } [.group [] []]).addSep false).1 ++ [0x7D] =
      pinnedHead ++ [0x2C, 0x22, 0x6B, 0x22, 0x3A, 0x31, 0x7D] := by decide

end Glb.C01
