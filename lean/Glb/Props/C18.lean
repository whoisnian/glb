/-
  C18 — CopyFile and MoveFile never lose file content.

  Theorems quantify over EVERY file-system state of the model (arbitrary entry map: hard links,
  symbolic links — chains, dangling, loops —, directories, missing names with any parent state,
  arbitrary inode contents, arbitrary device assignment) and every pair of names `src`, `dst`,
  including `src = dst` (same path; the kernel maps other spellings such as `./p` to the same
  directory entry) and every aliasing of `dst` to the source's inode.  `Fresh fs` only says the
  model's inode allocator does not hand out an inode that is in use.
  `copyFile`/`moveFile` are interpreters of the event lists tied to the source by
  Glb/Tie/Osutil.lean.  Helper lemmas: Glb/Proofs/Files.lean.
-/
import Glb.Proofs.Files

namespace Glb.C18
open Glb.Files Glb.Generated

/-- **CopyFile preserves content.** If `src` names (through any chain of symlinks) a regular
    file with bytes `b`:  result ok ⇒ `dst` and `src` both hold exactly `b` afterwards and the
    returned count is `b.length`;  result error ⇒ the file system is unchanged (in particular the
    source's content is intact).  No assumption relates `dst` to `src`: same name, symlink to
    it, hard link of it, … are all covered. -/
theorem copy_preserves (fs : FS) (src dst : Name) (b : Bytes) (hf : Fresh fs)
    (hs : content fs src = some b) :
    match copyFile fs src dst with
    | (fs', .ok n) => content fs' dst = some b ∧ content fs' src = some b ∧ n = b.length
    | (fs', .error _) => fs' = fs := by
  obtain ⟨x, i, hsrc, rfl⟩ := content_eq_some hs
  have hspec := copyFile_spec fs src dst x i hf hsrc
  rcases hc : copyFile fs src dst with ⟨fs1, e | n⟩ <;> rw [hc] at hspec
  · exact hspec
  · obtain ⟨hn, hx, hdi, y, k, _, hy, hdk⟩ := hspec
    exact ⟨by simp [content, hy, hdk], by simp [content, hx, hdi], hn⟩

/-- **Every aliasing is rejected before anything is touched.** Whenever `dst` resolves to the
    very inode `src` resolves to — the same name, a symbolic link (chain) to it, a hard link of
    it — CopyFile returns the same-file error and the file system is unchanged. -/
theorem copy_alias_rejected (fs : FS) (src dst : Name) (x y : Name) (i : Ino)
    (hsrc : resolve fs src = .file x i) (hdst : resolve fs dst = .file y i) :
    copyFile fs src dst = (fs, .error .sameFile) := by
  simp [copyFile_of_src hsrc, stat, hdst]

/-- a missing source: error, nothing created, nothing truncated -/
theorem copy_missing_source (fs : FS) (src dst : Name) (m : Name) (p : PState)
    (hsrc : resolve fs src = .missing m p) :
    ∃ e, copyFile fs src dst = (fs, .error e) := by
  cases p <;>
    simp [copyFile, runCopy, copyProg, List.foldl, copyStep, openRead, hsrc, resErr]

/-- **MoveFile rejects every aliasing before anything is touched.** Whenever `dst` resolves to
    the very inode `src` resolves to — the same name, `src` a symbolic link (chain) to `dst`,
    `dst` a symbolic link (chain) to `src`, a hard link — MoveFile returns the same-file error
    and the file system is unchanged (no rename, no copy, no remove). -/
theorem move_alias_rejected (fs : FS) (src dst : Name) (x y : Name) (i : Ino)
    (hsrc : resolve fs src = .file x i) (hdst : resolve fs dst = .file y i) :
    moveFile fs src dst = (fs, .error .sameFile) := by
  simp [moveFile_of_src hsrc, stat, hdst]

/-- **MoveFile preserves content.** If `src` names a regular file with bytes `b` *through any
    chain of symbolic links*:  result ok ⇒ `dst` holds exactly `b`;  result error ⇒ the file
    system is unchanged (the source is still there with its content).  Covers the guard, the
    rename path (regular-file entries and symbolic-link entries, destination missing / existing /
    a symlink name that gets replaced) and the copy+remove fall-back for *every* reason rename can
    fail (EXDEV, directory destination, missing parent, …). -/
theorem move_preserves (fs : FS) (src dst : Name) (b : Bytes) (hf : Fresh fs)
    (hs : content fs src = some b) :
    match moveFile fs src dst with
    | (fs', .ok _) => content fs' dst = some b
    | (fs', .error _) => fs' = fs := by
  obtain ⟨x, i, hsrc, rfl⟩ := content_eq_some hs
  rw [moveFile_of_src hsrc]
  by_cases hsame : stat fs dst = .ok (.ino i)
  · simp [hsame]
  · have hnd : ∀ y, resolve fs dst ≠ .file y i := fun y hy => hsame (by simp [stat, hy])
    rw [if_neg hsame]
    cases hr : rename fs src dst with
    | error e => exact movePinned_fallback fs src dst x i e hf hsrc hr
    | ok fs1 =>
      rw [renameElseCopy, hr]
      cases hes : fs.entry src with
      | missing p => simp [resolve, resolveN, hes] at hsrc
      | dir => simp [resolve, resolveN, hes] at hsrc
      | file i' =>
        obtain ⟨-, rfl⟩ : src = x ∧ i' = i := by simpa [resolve, resolveN, hes] using hsrc
        exact rename_file_ok fs fs1 src dst i' hes hr
      | symlink t => exact rename_symlink_content fs fs1 src dst t x i hes hsrc hnd hr

/-- **The source is removed only after the destination is complete.** If after MoveFile the
    source no longer holds its bytes under its name (the name was removed or replaced), then
    MoveFile returned nil and `dst` holds the original bytes. -/
theorem move_removes_source_only_after_copy (fs : FS) (src dst : Name) (b : Bytes)
    (hf : Fresh fs) (hs : content fs src = some b)
    (hgone : (moveFile fs src dst).1.entry src ≠ fs.entry src) :
    (∃ u, (moveFile fs src dst).2 = .ok u) ∧
      content (moveFile fs src dst).1 dst = some b := by
  have h := move_preserves fs src dst b hf hs
  cases hm : moveFile fs src dst with
  | mk fs' r =>
    rw [hm] at h hgone
    cases r with
    | ok u => exact ⟨⟨u, rfl⟩, h⟩
    | error e => simp only at h; subst h; exact absurd rfl hgone

/-- a missing source name: error, nothing renamed, created or removed -/
theorem move_missing_source (fs : FS) (src dst : Name) (p : PState)
    (hsrc : fs.entry src = .missing p) : ∃ e, moveFile fs src dst = (fs, .error e) := by
  have hres : resolve fs src = .missing src p := by simp [resolve, resolveN, hsrc]
  obtain ⟨e, hc⟩ := copy_missing_source fs src dst src p hres
  obtain ⟨e', hr⟩ := rename_missing hsrc dst
  refine ⟨e, ?_⟩
  rw [moveFile_guard]
  simp [stat, hres, resErr, renameElseCopy, hr, hc]

/-! ## Findings documented by concrete witnesses -/

/-- names 0 and 1, inode 0 holds `[1,2,3]`; name 1 is `alias` -/
def twoNames (alias : Entry) : FS :=
  { entry := fun n => if n = 0 then .file 0 else if n = 1 then alias else .missing .ok,
    data := fun i => if i = 0 then [1, 2, 3] else [],
    dev := fun _ => 0, next := 1 }

/-- **F6 (fixed by 270ff91).** The pinned order (Open, Create, Copy — no same-file guard)
    returns `(0, nil)` and leaves the source empty when the destination is a symlink to the
    source, a hard link of it, or the same path; the guarded order rejects all three and keeps
    the bytes. -/
theorem pinned_copy_loses_data :
    ∀ alias ∈ [Entry.symlink 0, Entry.file 0],
      (copyFilePinned (twoNames alias) 0 1).2 = .ok 0 ∧
      content (copyFilePinned (twoNames alias) 0 1).1 0 = some [] ∧
      (copyFilePinned (twoNames alias) 0 0).2 = .ok 0 ∧
      content (copyFilePinned (twoNames alias) 0 0).1 0 = some [] ∧
      (copyFile (twoNames alias) 0 1).2 = .error .sameFile ∧
      content (copyFile (twoNames alias) 0 1).1 0 = some [1, 2, 3] ∧
      (copyFile (twoNames alias) 0 0).2 = .error .sameFile := by decide

/-- **F9 (fixed by cf1ff93).** Before the guard, when the *source name* is a symbolic link to
    the destination (`src → dst`), `rename(src, dst)` succeeds and replaces `dst` by the link,
    which now points to itself: MoveFile returned nil and the bytes were unreachable.  (Name 1 is
    the symlink and the source, name 0 the file and the destination.)  The guarded order
    rejects the call and keeps the bytes. -/
theorem move_symlink_source_loses_data :
    content (twoNames (.symlink 0)) 1 = some [1, 2, 3] ∧
    (moveFilePinned (twoNames (.symlink 0)) 1 0).2 = .ok () ∧
    content (moveFilePinned (twoNames (.symlink 0)) 1 0).1 0 = none ∧
    resolve (moveFilePinned (twoNames (.symlink 0)) 1 0).1 0 = .loop ∧
    (moveFile (twoNames (.symlink 0)) 1 0).2 = .error .sameFile ∧
    content (moveFile (twoNames (.symlink 0)) 1 0).1 0 = some [1, 2, 3] ∧
    content (moveFile (twoNames (.symlink 0)) 1 0).1 1 = some [1, 2, 3] := by decide

/-! ## Non-vacuity -/

example : Fresh (twoNames (.symlink 0)) := by
  intro n i h
  simp only [twoNames] at h ⊢
  split at h
  · simp at h; subst h; exact Nat.zero_lt_one
  · split at h <;> simp at h

example : content (twoNames (.file 0)) 0 = some [1, 2, 3] := by decide

/-- an ordinary successful copy to a fresh name, and one through a dangling symlink -/
example : (copyFile (twoNames (.symlink 5)) 0 2).2 = .ok 3 ∧
    content (copyFile (twoNames (.symlink 5)) 0 2).1 2 = some [1, 2, 3] ∧
    (copyFile (twoNames (.symlink 5)) 0 1).2 = .ok 3 ∧
    content (copyFile (twoNames (.symlink 5)) 0 1).1 5 = some [1, 2, 3] := by decide

/-- MoveFile: same device = rename; other device = copy + remove; onto a hard link of the
    source, the same path, or a (cross-device) symlink back to the source = same-file error with
    everything left in place -/
example :
    (moveFile (twoNames (.missing .ok)) 0 1).2 = .ok () ∧
    content (moveFile (twoNames (.missing .ok)) 0 1).1 1 = some [1, 2, 3] ∧
    (moveFile (twoNames (.missing .ok)) 0 1).1.entry 0 = .missing .ok ∧
    (moveFile { twoNames (.missing .ok) with dev := fun n => n } 0 1).2 = .ok () ∧
    content (moveFile { twoNames (.missing .ok) with dev := fun n => n } 0 1).1 1 = some [1, 2, 3] ∧
    (moveFile { twoNames (.missing .ok) with dev := fun n => n } 0 1).1.entry 0 = .missing .ok ∧
    (moveFile (twoNames (.file 0)) 0 1).2 = .error .sameFile ∧
    (moveFile (twoNames (.file 0)) 0 1).1.entry 0 = .file 0 ∧
    (moveFile (twoNames (.file 0)) 0 0).2 = .error .sameFile ∧
    (moveFile { twoNames (.symlink 0) with dev := fun n => n } 0 1).2 = .error .sameFile := by
  decide

/-- hypotheses of `movePinned_fallback` with a symlink source moved to another device:
    the link's target content arrives, the link is removed, the target file stays -/
example :
    (match rename { twoNames (.symlink 0) with dev := fun n => n } 1 2 with
      | .error .exdev => true | _ => false) = true ∧
    content { twoNames (.symlink 0) with dev := fun n => n } 1 = some [1, 2, 3] ∧
    (moveFile { twoNames (.symlink 0) with dev := fun n => n } 1 2).2 = .ok () ∧
    content (moveFile { twoNames (.symlink 0) with dev := fun n => n } 1 2).1 2 = some [1, 2, 3] ∧
    (moveFile { twoNames (.symlink 0) with dev := fun n => n } 1 2).1.entry 1 = .missing .ok ∧
    content (moveFile { twoNames (.symlink 0) with dev := fun n => n } 1 2).1 0 = some [1, 2, 3] := by
  decide

end Glb.C18
