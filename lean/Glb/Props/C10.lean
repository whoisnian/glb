/-
  C10 — Command-line grammar: flags, values and trailing args are split as documented.

  Model:  Glb/Model/ArgParse.lean   (`argParse`, the code's byte indexing with panicking helpers)
  Spec:   Glb/Spec/ArgvGrammar.lean (`classify` + `parse`, and the declarative `WellFormed`/`Ends`/`Offends`)
  Only the property theorems live here; helper lemmas are in Glb/Proofs/ArgParse.lean.

  Every theorem is for ALL argument vectors (lists of arbitrary byte strings) and ALL flag tables
  `lookup : Bytes → Option Bool`.

  Not covered here (it is the typed half of the statement, "unparsable effective value yields an
  error"): `Value.Set` of the effective text.  That step is the last loop of `Parse`, modelled in
  Glb/Model/Config.lean and proved in Props/C09 (`parse_ok_iff`); for C10 it is checked on
  the real code by the direct oracle of harness stream `argv`.
-/
import Glb.Proofs.ArgParse

namespace Glb.C10
open Glb.ArgParse Glb.ArgvGrammar

/-- The index-carrying model of `argParse` never panics and returns exactly what the documented
    grammar says: the same assignments in the same order and the same remaining arguments, or the
    same error class with the same offending token / name. -/
theorem argParse_refines_grammar (lookup : Bytes → Option Bool) (argv : List Bytes) :
    ∃ r, argParse lookup argv = .ok r ∧ r.toSpec = parse lookup argv :=
  (argParse_spec lookup argv).imp fun _ h => ⟨h.1, h.2.1⟩

/-- No index or slice expression of `argParse` can go out of range, whatever the bytes. -/
theorem never_panics (lookup : Bytes → Option Bool) (argv : List Bytes) :
    ∃ r, argParse lookup argv = .ok r :=
  (argParse_spec lookup argv).imp fun _ h => h.1

/-- `Args()` (also after an error) is a suffix of the argument vector: the same tokens, unchanged
    and in order. -/
theorem args_is_suffix (lookup : Bytes → Option Bool) (argv : List Bytes) (r : Result)
    (h : argParse lookup argv = .ok r) : r.st.args <:+ argv := by
  obtain ⟨r', h1, _, h3⟩ := argParse_spec lookup argv
  cases h.symm.trans h1
  exact h3

/-- Success, exactly: argv is a sequence of complete, defined flag groups (`WellFormed`) that
    denote the assignments, followed by the end of input, or a non-flag (kept), or `--`
    (dropped); `Args()` is what follows. -/
theorem success_exactly (lookup : Bytes → Option Bool) (argv : List Bytes)
    (as : List (Bytes × Bytes)) (rest : List Bytes) :
    argParse lookup argv = .ok (.ok ⟨as, rest⟩) ↔
      ∃ pre tail, argv = pre ++ tail ∧ WellFormed lookup pre as ∧ Ends tail rest := by
  obtain ⟨r, h1, h2, _⟩ := argParse_spec lookup argv
  rw [h1, ← parse_ok_iff, ← h2]
  rcases r with ⟨⟨⟩⟩ | _ <;> simp [Result.toSpec]

/-- Errors, exactly: `argParse` fails with class `e` iff, after a well-formed prefix, the next
    token is the violation `e`:
      * `badSyntax tok`  — `tok` is malformed (see `bad_syntax_exactly`),
      * `undefined n`    — `tok` is a flag `-n`, `--n`, `-n=v`, `--n=v` whose name is not in the table,
      * `needsArg n`     — `tok` is `-n`/`--n` for a defined non-boolean flag and it is the last token. -/
theorem errors_exactly (lookup : Bytes → Option Bool) (argv : List Bytes) (e : ArgErr) :
    (∃ s, argParse lookup argv = .ok (.err e s)) ↔
      ∃ pre as tok rest, argv = pre ++ tok :: rest ∧ WellFormed lookup pre as ∧
        Offends lookup tok rest e := by
  obtain ⟨r, h1, h2, _⟩ := argParse_spec lookup argv
  rw [h1, ← parse_err_iff, ← h2]
  cases r <;> simp [Result.toSpec]

/-- The malformed tokens are exactly `-=…`, `--=…` and `---…`. -/
theorem bad_syntax_exactly (tok : Bytes) :
    classify tok = .bad ↔ (∃ t, tok = dash :: equals :: t) ∨ (∃ t, tok = dash :: dash :: equals :: t) ∨
      (∃ t, tok = dash :: dash :: dash :: t) := by
  have hne : dash ≠ equals := by decide
  -- the body after the dashes is bad by `classifyBody_bad_iff`; it is never empty there (`-` is a non-flag,
  -- `--` the terminator), and after a single dash it does not start with a dash
  fun_cases classify tok <;> simp_all [classifyBody_bad_iff]
  exact or_comm

/-- Where parsing stops without consuming: the empty token, one-byte tokens (in particular `-`) and
    everything not starting with '-'; and the only terminator is the two-byte token `--`. -/
theorem stop_tokens_exactly (tok : Bytes) :
    (classify tok = .nonFlag ↔ tok.length < 2 ∨ tok.head? ≠ some dash) ∧
    (classify tok = .terminator ↔ tok = [dash, dash]) := by
  fun_cases classify tok <;> simp_all [classifyBody_ne_nonFlag, classifyBody_ne_terminator]

/-- A token is read as flag `n` (with value `v`) iff it is one or two dashes followed by `n`, resp.
    `n=v`, where `n` is non-empty, does not start with '-' or '=', and has no '=' after its
    first byte: the split is at the FIRST '=' at index ≥ 1. -/
theorem flag_tokens_exactly (tok n : Bytes) (v : Option Bytes) :
    classify tok = .flag n v ↔
      (∃ c t, n = c :: t ∧ c ≠ dash ∧ c ≠ equals ∧ equals ∉ t) ∧
      (tok = dash :: n ++ (match v with | none => [] | some w => equals :: w) ∨
       tok = dash :: dash :: n ++ (match v with | none => [] | some w => equals :: w)) := by
  simp only [classify_flag_iff, classifyBody_flag_iff]
  constructor
  · rintro ⟨_, h, hn, rfl⟩
    exact ⟨hn, h⟩
  · rintro ⟨hn, h⟩
    exact ⟨_, h, hn, rfl⟩

/-- what `NewFlagSet` demands of every flag name (config.go: "flag name begins with -",
    "flag name contains ="; an empty tag name is replaced by the lower-cased field name) -/
def Guarded (name : Bytes) : Prop := name ≠ [] ∧ name.head? ≠ some dash ∧ equals ∉ name

theorem map_toSpec (lookup : Bytes → Option Bool) (argv : List Bytes) :
    (argParse lookup argv).map Result.toSpec = .ok (parse lookup argv) := by
  obtain ⟨r, h1, h2⟩ := argParse_refines_grammar lookup argv
  simp [h1, Except.map, h2]

/-- A guarded, defined name round-trips: `-name=value`, `--name=value` (any flag kind),
    `-name value`, `--name value` (non-boolean) assign exactly `(name, value)` — for EVERY byte
    string `value`, including ones that contain '=' or look like flags — and `-name`, `--name`
    (boolean) assign `(name, "true")`; parsing then continues with the following tokens. -/
theorem name_guard (lookup : Bytes → Option Bool) (name value : Bytes) (rest : List Bytes) (b : Bool)
    (hg : Guarded name) (hdef : lookup name = some b) :
    let continues := (argParse lookup rest).map (fun r => r.toSpec.cons (name, value))
    (argParse lookup ((dash :: name ++ equals :: value) :: rest)).map Result.toSpec = continues ∧
    (argParse lookup ((dash :: dash :: name ++ equals :: value) :: rest)).map Result.toSpec = continues ∧
    (b = false →
      (argParse lookup ((dash :: name) :: value :: rest)).map Result.toSpec = continues ∧
      (argParse lookup ((dash :: dash :: name) :: value :: rest)).map Result.toSpec = continues) ∧
    (b = true →
      (argParse lookup ((dash :: name) :: rest)).map Result.toSpec =
        (argParse lookup rest).map (fun r => r.toSpec.cons (name, trueText)) ∧
      (argParse lookup ((dash :: dash :: name) :: rest)).map Result.toSpec =
        (argParse lookup rest).map (fun r => r.toSpec.cons (name, trueText))) := by
  have hnm : ∃ c t, name = c :: t ∧ c ≠ dash ∧ c ≠ equals ∧ equals ∉ t := by
    cases name with
    | nil => exact absurd rfl hg.1
    | cons c t => exact ⟨c, t, rfl, by simpa [Guarded, eq_comm] using hg⟩
  have k1 : classify (dash :: name ++ equals :: value) = .flag name (some value) :=
    (flag_tokens_exactly _ _ _).2 ⟨hnm, .inl rfl⟩
  have k2 : classify (dash :: dash :: name ++ equals :: value) = .flag name (some value) :=
    (flag_tokens_exactly _ _ _).2 ⟨hnm, .inr rfl⟩
  have k3 : classify (dash :: name) = .flag name none :=
    (flag_tokens_exactly _ _ _).2 ⟨hnm, .inl (by simp)⟩
  have k4 : classify (dash :: dash :: name) = .flag name none :=
    (flag_tokens_exactly _ _ _).2 ⟨hnm, .inr (by simp)⟩
  obtain ⟨r, h1, h2⟩ := argParse_refines_grammar lookup rest
  simp only [map_toSpec, h1, parse, k1, k2, k3, k4, hdef]
  simp only [Except.map, h2, true_and]
  constructor
  · rintro rfl
    exact ⟨rfl, rfl⟩
  · rintro rfl
    exact ⟨rfl, rfl⟩

/-- Last occurrence wins: the flag keeps the value of its last assignment, other flags are not
    affected by it. -/
theorem last_wins (as : List (Bytes × Bytes)) (n m v : Bytes) :
    effective (as ++ [(n, v)]) n = some v ∧ (m ≠ n → effective (as ++ [(n, v)]) m = effective as m) := by
  constructor
  · simp [effective, List.foldl_append]
  · intro h; simp [effective, List.foldl_append, Ne.symm h]

/-- a flag that is never assigned has no command-line value (`ArgValue == nil`) -/
theorem effective_none_iff (as : List (Bytes × Bytes)) (n : Bytes) :
    effective as n = none ↔ ∀ a ∈ as, a.1 ≠ n := by
  suffices h : ∀ (cur : Option Bytes), as.foldl (fun cur a => if a.1 = n then some a.2 else cur) cur = none ↔
      cur = none ∧ ∀ a ∈ as, a.1 ≠ n by simpa [effective] using h none
  induction as with
  | nil => simp
  | cons a l ih =>
    intro cur
    by_cases h : a.1 = n <;> simp [List.foldl_cons, h, ih]

section examples

/-- decidable equality of model outcomes, so that the examples below are checked by `decide`
    (a named instance inside this namespace: it cannot clash with other modules) -/
instance exceptDecEq {ε α : Type} [DecidableEq ε] [DecidableEq α] : DecidableEq (Except ε α)
  | .ok a, .ok b => if h : a = b then isTrue (by rw [h]) else isFalse (by intro e; injection e; contradiction)
  | .error a, .error b => if h : a = b then isTrue (by rw [h]) else isFalse (by intro e; injection e; contradiction)
  | .ok _, .error _ => isFalse (by intro e; cases e)
  | .error _, .ok _ => isFalse (by intro e; cases e)

/-- `x`, `n`: non-boolean flags; `b`: boolean flag; `a=b` and `-x` are names the guard rejects -/
def demo : Bytes → Option Bool := fun n =>
  if n = [0x78] then some false            -- "x"
  else if n = [0x6e] then some false       -- "n"
  else if n = [0x62] then some true        -- "b"
  else if n = [0x61, 0x3d, 0x62] then some false  -- "a=b"  (unguarded)
  else if n = [0x2d, 0x78] then some false        -- "-x"   (unguarded)
  else none

abbrev d : UInt8 := 0x2d   -- '-'
abbrev q : UInt8 := 0x3d   -- '='
abbrev x : UInt8 := 0x78
abbrev v : UInt8 := 0x76
abbrev bb : UInt8 := 0x62
abbrev yy : UInt8 := 0x79

-- near-misses of the property text
example : argParse demo [[d]] = .ok (.ok ⟨[], [[d]]⟩) := by decide                       -- "-"  is a non-flag, kept
example : argParse demo [[d, d], [d, x]] = .ok (.ok ⟨[], [[d, x]]⟩) := by decide          -- "--" is consumed, rest untouched
example : argParse demo [[d, d, d, x]] = .ok (.err (.badSyntax [d, d, d, x]) ⟨[], [[d, d, d, x]]⟩) := by decide
example : argParse demo [[d, q]] = .ok (.err (.badSyntax [d, q]) ⟨[], [[d, q]]⟩) := by decide
example : argParse demo [[d, d, q, v]] = .ok (.err (.badSyntax [d, d, q, v]) ⟨[], [[d, d, q, v]]⟩) := by decide
example : argParse demo [[d, x, q]] = .ok (.ok ⟨[([x], [])], []⟩) := by decide           -- "-x=" assigns the empty text
-- a value that looks like a flag is taken as the value
example : argParse demo [[d, x], [d, bb]] = .ok (.ok ⟨[([x], [d, bb])], []⟩) := by decide
-- a boolean flag consumes nothing: the stray value is the first non-flag
example : argParse demo [[d, bb], [v]] = .ok (.ok ⟨[([bb], trueText)], [[v]]⟩) := by decide
-- '=' inside the value: split at the first '=' only
example : argParse demo [[d, d, x, q, v, q, v]] = .ok (.ok ⟨[([x], [v, q, v])], []⟩) := by decide
-- the three error classes
example : argParse demo [[d, x]] = .ok (.err (.needsArg [x]) ⟨[], []⟩) := by decide
example : argParse demo [[d, yy], [v]] = .ok (.err (.undefined [yy]) ⟨[], [[v]]⟩) := by decide
example : argParse demo [[d, bb], [d, d, d]] = .ok (.err (.badSyntax [d, d, d]) ⟨[([bb], trueText)], [[d, d, d]]⟩) := by decide
-- repeated flag: last occurrence wins
example : (argParse demo [[d, x, q, v], [d, x], [yy]]).map (fun r => effective r.st.assigns [x]) = .ok (some [yy]) := by decide

-- the guard is satisfiable
example : Guarded [x] := by simp [Guarded]; decide
-- the guard is necessary: a defined name containing '=' can never be addressed (`-a=b=v` is read as flag `a`)
example : argParse demo [[d, 0x61, q, bb, q, v]] = .ok (.err (.undefined [0x61]) ⟨[], []⟩) := by decide
-- neither can a defined name starting with '-' be addressed (`--x=v` is read as flag `x`, `---x=v` is malformed)
example : argParse demo [[d, d, x, q, v]] = .ok (.ok ⟨[([x], [v])], []⟩) := by decide
example : argParse demo [[d, d, d, x, q, v]] = .ok (.err (.badSyntax [d, d, d, x, q, v]) ⟨[], [[d, d, d, x, q, v]]⟩) := by decide

-- the hypotheses of `errors_exactly` / `success_exactly` are inhabited
example : WellFormed demo [[d, x], [v], [d, bb]] [([x], [v]), ([bb], trueText)] :=
  .withNext (by decide) (by decide) (.boolFlag (by decide) (by decide) .nil)
example : Offends demo [d, x] [] (.needsArg [x]) := ⟨by decide, by decide, rfl⟩

end examples

end Glb.C10
