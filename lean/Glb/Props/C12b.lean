/-
  C12b — the atomicity granularity assumed by Glb.Props.C12 is a THEOREM over an explicit
  lock-level model (Glb.Model.FilterConc): threads execute Add/Remove/Contains statement by
  statement (the list→maps migration is split into set-mode / allocate / copy slot by slot /
  insert), the RWMutex is modelled by its contract, and the locks are placed where the extracted
  discipline (Glb.Tie.FilterLock) says they are.

  * `mutual_exclusion`              a writer inside its critical section excludes every other
                                    writer and every reader inside its read section;
  * `guarded_fields_stable`         the guarded fields change only by the lock holder's steps,
                                    never while a reader holds the lock;
  * `critical_sections_atomic`      every fine step is a stutter or exactly ONE step of the coarse
                                    model of Props/C12 (writer section = one `cstep`, taken at
                                    Lock; lookup = load + one `scan`, taken at RLock);
  * `fine_refines_coarse`           hence every reachable fine configuration is the image of a
                                    reachable coarse configuration;
  * `coarse_is_C12_model`           the coarse model is the model of Props/C12: the state is
                                    `crun` of the writer history, every finished lookup is
                                    `containsConc` at two points of that history;
  * `fine_lookup_sound/complete`, `fine_final_agreement`   C12's theorems for fine executions;
  * `no_rlock_counterexample`       without RLock a lookup sees a half-migrated filter and
                                    answers false for an address whose range is present throughout.
-/
import Glb.Proofs.FilterConc

namespace Glb.C12b
open Glb.Filter Glb.C11 Glb.FilterConc

/-- **mutual exclusion.**  In every reachable configuration a thread inside a writer critical
    section (between `Lock` and `Unlock`) excludes all other threads from writer critical sections
    and from read sections (between `RLock` and `RUnlock`). -/
theorem mutual_exclusion (ls : Nat) (progs : Tid → List Call) (c : Cfg)
    (hr : Reachable ls progs c) (t : Tid) (ht : (c.th t).pc.inW = true) :
    ∀ u, u ≠ t → (c.th u).pc.inW = false ∧ (c.th u).pc.inR = false := by
  have hinv := lockInv_reachable hr
  have hw : c.writer = some t := (hinv.writer t).1 ht
  intro u hu
  refine ⟨?_, hinv.no_reader hw u⟩
  cases h : (c.th u).pc.inW with
  | false => rfl
  | true => exact absurd (Option.some.inj (hw.symm.trans ((hinv.writer u).1 h))).symm hu

/-- the lock state says exactly who is inside which section -/
theorem lock_state_exact (ls : Nat) (progs : Tid → List Call) (c : Cfg)
    (hr : Reachable ls progs c) (t : Tid) :
    ((c.th t).pc.inW = true ↔ c.writer = some t) ∧ ((c.th t).pc.inR = true ↔ t ∈ c.readers) :=
  let h := lockInv_reachable hr
  ⟨h.writer t, h.readers t⟩

/-- **reader stability.**  A step changes a guarded field (`mode`, `index`/`ipList`, `ipMaps`) only
    if the stepping thread holds the writer lock, and then no reader is inside its read section:
    the guarded state is constant throughout every read section. -/
theorem guarded_fields_stable (ls : Nat) (progs : Tid → List Call) (c c' : Cfg) (t : Tid)
    (hr : Reachable ls progs c) (hs : step ls true c t = some c') :
    GuardedEq c.st c'.st ∨ (c.writer = some t ∧ ∀ u, (c.th u).pc.inR = false) :=
  guardedEq_wstep_other (lockInv_reachable hr) hs

theorem read_section_stable (ls : Nat) (progs : Tid → List Call) (c c' : Cfg) (t u : Tid)
    (hr : Reachable ls progs c) (hs : step ls true c t = some c') (hu : (c.th u).pc.inR = true) :
    GuardedEq c.st c'.st := by
  rcases guarded_fields_stable ls progs c c' t hr hs with h | ⟨_, h⟩
  · exact h
  · rw [h u] at hu; cases hu

/-- **the refinement, step by step.**  Let `a` be a coarse configuration that the fine
    configuration `c` stands for (`Sim`: the coarse state is the fine state with the lock holder's
    critical section completed, a thread inside a critical/read section has already performed its
    coarse step).  Then every fine step is a stutter (`a' = a`) or exactly one coarse step of the
    same thread, and the relation is kept. -/
theorem critical_sections_atomic (ls : Nat) (progs : Tid → List Call) (c c' : Cfg) (t : Tid)
    (hr : Reachable ls progs c) (hs : step ls true c t = some c') (a : CCfg) (hsim : Sim ls c a) :
    ∃ a', (a' = a ∨ cstepT ls a t = some a') ∧ Sim ls c' a' := by
  have hinv := lockInv_reachable hr
  have hoth := absTh_other hinv hs
  have hwpc := @writer_pc_other ls c c' t hinv hs
  obtain ⟨x, hx, hstep⟩ := step_cases hs
  have hst := hsim.1
  have htt := (hsim.2 t).trans (absTh_of hx)
  have hquiet := fun hp => absSt_congr ls (hwpc hx hp)
  cases hstep with
  | store b hop hb =>
    refine ⟨_, Or.inr (cstepT_write htt hop), sim_move hsim hoth rfl _ ?_ rfl rfl⟩
    rw [absSt_store ls b (hwpc hx rfl) rfl rfl, ← hst]
    exact hb _
  | lock hop hk hfree =>
    -- the whole critical section takes effect at `Lock`
    refine ⟨_, Or.inr (cstepT_write htt hop), sim_move hsim hoth rfl _ ?_ rfl rfl⟩
    rw [absSt_of rfl (setTh_self ..), ← absSt_none hfree.1, ← hst]
    exact hk _
  | wstep =>
    have hw := hinv.holder hx rfl
    refine ⟨a, Or.inl rfl, sim_stutter hsim hoth rfl
      ((absSt_of hw (setTh_self ..)).trans ?_) (absTh_of hx).symm⟩
    rw [absSt_of hw hx]
    exact finishW_wstep
  | unlock =>
    exact ⟨a, Or.inl rfl, sim_stutter hsim hoth rfl (absSt_of (hinv.holder hx rfl) hx).symm
      (absTh_of hx).symm⟩
  | loadT hm =>
    exact ⟨_, Or.inr (cstepT_loadT htt (by rw [hst, absSt_matchAll, hm])),
      sim_move hsim hoth rfl _ (hst.trans (hquiet rfl rfl rfl).symm) rfl rfl⟩
  | loadF hm =>
    exact ⟨_, Or.inr (cstepT_loadF htt (by rw [hst, absSt_matchAll, hm])),
      sim_move hsim hoth rfl _ (hst.trans (hquiet rfl rfl rfl).symm) rfl rfl⟩
  | rlock hwn =>
    -- the scan takes effect at `RLock`
    refine ⟨_, Or.inr (cstepT_scan htt), sim_move hsim hoth rfl _ (hst.trans (hquiet rfl rfl rfl).symm) rfl ?_⟩
    rw [hst, absSt_none hwn]; rfl
  | rstep hk =>
    refine ⟨a, Or.inl rfl, sim_stutter hsim hoth rfl (hquiet rfl rfl rfl) ?_⟩
    rw [absTh_inR hx hk, ← finishR_rstep]
    exact absTh_inR rfl inR_rstep
  | runlock =>
    exact ⟨a, Or.inl rfl, sim_stutter hsim hoth rfl (hquiet rfl rfl rfl) (absTh_of hx).symm⟩

/-- every fine-grained execution is an execution of the coarse model: each writer critical section
    is one `cstep`, each lookup one load and one `scan` -/
theorem fine_refines_coarse (ls : Nat) (progs : Tid → List Call) (c : Cfg)
    (hr : Reachable ls progs c) : ∃ a, CReachable ls progs a ∧ Sim ls c a := by
  induction hr with
  | init => exact ⟨_, .init, rfl, fun _ => rfl⟩
  | step t hr hs ih =>
    obtain ⟨a, ha, hsim⟩ := ih
    obtain ⟨a', rfl | ha', hsim'⟩ := critical_sections_atomic ls progs _ _ t hr hs a hsim
    · exact ⟨_, ha, hsim'⟩
    · exact ⟨a', .step t ha ha', hsim'⟩

/-- what `Sim` says outside the sections: with the lock free the coarse state IS the fine state,
    and a thread that is not inside a read section has exactly the coarse results -/
theorem sim_observations (ls : Nat) (c : Cfg) (a : CCfg) (hsim : Sim ls c a) :
    (c.writer = none → a.st = c.st) ∧
    (∀ t, (c.th t).pc.inR = false → (a.th t).results = (c.th t).results) ∧
    (∀ t, (c.th t).pc = .idle → (a.th t).rest = (c.th t).rest ∧ (a.th t).loaded = none) := by
  refine ⟨fun hw => hsim.1.trans (absSt_none hw), fun t ht => ?_, fun t ht => ?_⟩
  · cases hx : c.th t with | mk rest pc res
    rw [hsim.2 t, absTh_of hx]
    rw [hx] at ht
    cases pc with
    | idle | w => rfl
    | r k ip =>
      cases k with
      | rlock => rfl
      | _ => cases ht
  · simp only [hsim.2 t, absTh, ht, and_self]

/-- **the coarse model is the model of Glb.Props.C12.**  Its state is `crun` of the sequence of
    writer steps so far; every finished lookup is a `C12.Lookup` on two prefixes of that sequence
    and returned `C12.containsConc` of the two states; each thread's writer steps appear in
    program order; the results of a thread are its records, in order. -/
theorem coarse_is_C12_model (ls : Nat) (progs : Tid → List Call) (hv : Validated progs) (a : CCfg)
    (ha : CReachable ls progs a) :
    a.st = crun ls a.hist.ops ∧
    (∀ r ∈ a.log, ∃ mid : Hist, r.whole = r.pre ++ mid ∧ r.whole <+: a.hist ∧
      Nonempty (C12.Lookup ls r.pre.ops mid.ops) ∧
      r.result = C12.containsConc (crun ls r.pre.ops) (crun ls (r.pre.ops ++ mid.ops)) r.ip) ∧
    (∀ t, projOps a.hist t ++ writeOps (a.th t).rest = writeOps (progs t)) ∧
    (∀ t, (a.log.filter (fun r => r.tid = t)).map (·.result) = (a.th t).results) := by
  have hi := cinv_reachable hv ha
  refine ⟨hi.state, fun r hr => ?_, hi.proj, hi.results⟩
  obtain ⟨⟨(mid : Hist), hmid⟩, hw, hres⟩ := hi.log r hr
  have hops : r.whole.ops = r.pre.ops ++ mid.ops := hmid ▸ ops_append r.pre mid
  have hlen : ∀ op ∈ r.pre.ops ++ mid.ops, op.len ≤ 32 := fun op hop =>
    hi.len op ((hw.map _).subset (hops ▸ hop : op ∈ r.whole.ops))
  exact ⟨mid, hmid.symm, hw, ⟨⟨fun op hop => hlen op (List.mem_append_left _ hop),
    fun op hop => hlen op (List.mem_append_right _ hop)⟩⟩, hops ▸ hres⟩

/-! ### C12's theorems for fine-grained executions -/

/-- `a` explains the fine configuration `c`: a reachable configuration of the C12 model that `c`
    stands for (exists for every reachable `c`: `fine_refines_coarse`) -/
def Explains (ls : Nat) (progs : Tid → List Call) (c : Cfg) (a : CCfg) : Prop :=
  CReachable ls progs a ∧ Sim ls c a

/-- the results a fine thread has returned are the results of its lookup records, in order
    (for a thread that is not in the middle of a read section) -/
theorem fine_results_logged (ls : Nat) (progs : Tid → List Call) (hv : Validated progs)
    (c : Cfg) (a : CCfg) (h : Explains ls progs c a) (t : Tid) (ht : (c.th t).pc.inR = false) :
    (c.th t).results = (a.log.filter (fun r => r.tid = t)).map (·.result) := by
  rw [(cinv_reachable hv h.1).results t, (sim_observations ls c a h.2).2.1 t ht]

/-- **lookup soundness for fine-grained executions**: a `Contains(ip)` call that returned true had a
    range covering `ip` in the abstract prefix set at its load or at its scan (two moments between
    call and return; `r.pre`/`r.whole` are the writer operations that took effect before them) -/
theorem fine_lookup_sound (ls : Nat) (progs : Tid → List Call) (hv : Validated progs)
    (c : Cfg) (a : CCfg) (h : Explains ls progs c a) (r : Rec) (hr : r ∈ a.log)
    (hres : r.result = true) :
    (∃ e ∈ specRun r.pre.ops, C12.covers e r.ip) ∨ (∃ e ∈ specRun r.whole.ops, C12.covers e r.ip) := by
  obtain ⟨mid, hmid, _, ⟨hl⟩, hc⟩ := (coarse_is_C12_model ls progs hv a h.1).2.1 r hr
  rw [hmid, ops_append]
  exact C12.lookup_sound ls r.pre.ops mid.ops hl r.ip (hc ▸ hres)

/-- **lookup completeness for fine-grained executions**: if one range covering `ip` is in the
    abstract prefix set both at the load and at the scan (in particular: during the whole call),
    the call returns true -/
theorem fine_lookup_complete (ls : Nat) (progs : Tid → List Call) (hv : Validated progs)
    (c : Cfg) (a : CCfg) (h : Explains ls progs c a) (r : Rec) (hr : r ∈ a.log)
    (e : Addr × Nat) (hc : C12.covers e r.ip) (h1 : e ∈ specRun r.pre.ops)
    (h2 : e ∈ specRun r.whole.ops) : r.result = true := by
  obtain ⟨mid, hmid, _, ⟨hl⟩, hres⟩ := (coarse_is_C12_model ls progs hv a h.1).2.1 r hr
  rw [hmid, ops_append] at h2
  exact hres ▸ C12.lookup_complete ls r.pre.ops mid.ops hl r.ip e hc h1 h2

/-- **final agreement for fine-grained executions.**  All threads have finished; writers own
    disjoint key sets (`keyOwner`).  Then the filter answers every lookup as the prefix set of ANY
    schedule `ops2` that runs each thread's writer calls in program order — e.g. thread after
    thread — whatever the interleaving of the fine steps was. -/
theorem fine_final_agreement (ls : Nat) (progs : Tid → List Call) (hv : Validated progs)
    (c : Cfg) (hr : Reachable ls progs c)
    (hdone : ∀ t, (c.th t).pc = .idle ∧ (c.th t).rest = [])
    (keyOwner : Addr × Nat → Tid)
    (hown : ∀ t, ∀ o ∈ writeOps (progs t), keyOwner (C12.opKey o) = t)
    (ops2 : List COp)
    (hseq : ∀ t, ops2.filter (fun o => keyOwner (C12.opKey o) = t) = writeOps (progs t))
    (ip : Addr) :
    containsAddr c.st ip = true ↔ specMem (specRun ops2) ip := by
  obtain ⟨a, ha, hsim⟩ := fine_refines_coarse ls progs c hr
  have hi := cinv_reachable hv ha
  have hinv := lockInv_reachable hr
  have hwn : c.writer = none := by
    cases hw : c.writer with
    | none => rfl
    | some w => have := (hinv.writer w).2 hw; rw [(hdone w).1] at this; cases this
  have hobs := sim_observations ls c a hsim
  have hproj : ∀ t, projOps a.hist t = writeOps (progs t) := by
    intro t
    have := hi.proj t
    rw [(hobs.2.2 t (hdone t).1).1, (hdone t).2] at this
    exact (List.append_nil _).symm.trans this
  have hmem : ∀ e ∈ a.hist, keyOwner (C12.opKey e.2) = e.1 := fun e he =>
    hown e.1 e.2 (hproj e.1 ▸ mem_projOps a.hist e he)
  rw [← hobs.1 hwn, hi.state]
  refine C12.final_agreement ls a.hist.ops ops2 hi.len ?_ ip
  refine C12.owned_keys_same_order (fun o => keyOwner (C12.opKey o)) keyOwner a.hist.ops ops2
    (fun _ _ => rfl) (fun _ _ => rfl) (fun w => ?_)
  rw [projOps_eq_filter_owner keyOwner a.hist hmem w, hproj, hseq]

/-! ### the reader lock is necessary: the mutant "Contains without RLock" -/

/-- list size 1; thread 0 adds 10.0.0.0/8 and then 192.168.0.0/16 (the second Add migrates the
    list to the maps); thread 1 looks up 10.1.2.3.  Nothing is ever removed. -/
def cexProgs : Tid → List Call := fun t =>
  if t = 0 then [.add 0x0a000000#32 8, .add 0xc0a80000#32 16]
  else if t = 1 then [.contains 0x0a010203#32] else []

/-- the first Add, completely (Lock, mode, index, store, Unlock) -/
def cexSched0 : List Tid := List.replicate 5 0
/-- the second Add up to the allocation of the empty maps (Lock, mode, index, set mode, allocate),
    then the whole lookup (load, [no RLock], mode, 32 map probes, loop exit, return) -/
def cexSched : List Tid := List.replicate 5 0 ++ List.replicate 37 1

def cexBefore (c : Cfg) : Bool :=
  (c.th 1).pc == .idle && (c.th 1).rest == [.contains 0x0a010203#32] && (c.th 1).results == [] &&
  (c.th 0).pc == .idle && c.writer == none && scan c.st 0x0a010203#32

def cexAfter (c : Cfg) : Bool :=
  (c.th 1).results == [false] && (c.th 1).rest == [] && (c.th 1).pc == .idle &&
  (c.th 0).pc == .w (.aCopy 0) 0xc0a80000#32 16 && c.writer == some 0 &&
  c.st == { matchAll := false, mapsMode := true, list := [(0x0a000000#32, 8)], maps := [] }

theorem cex_check :
    ((runSched 1 false (initCfg cexProgs) cexSched0).bind fun c0 =>
      (runSched 1 false c0 cexSched).map fun c2 => cexBefore c0 && cexAfter c2) = some true := by
  decide

/-- **without the reader lock the filter is wrong.**  In the model variant where `Contains` skips
    RLock/RUnlock there is an execution in which
    * before the lookup starts (`c0`) all threads are between calls and 10.0.0.0/8 is stored
      (a lookup of 10.1.2.3 at that moment answers true), and no program ever removes anything,
      so the range is in the abstract prefix set during the whole lookup;
    * the lookup runs while the writer is in the middle of the list→maps migration (mode already
      `maps`, maps allocated but still empty, writer at `aCopy 0` holding the lock) and
      returns FALSE (`c2`). -/
theorem no_rlock_counterexample :
    ∃ c0 c2, ReachableNoRLock 1 cexProgs c0 ∧ ReachableNoRLock 1 cexProgs c2 ∧
      runSched 1 false c0 cexSched = some c2 ∧
      ((c0.th 1).pc = .idle ∧ (c0.th 1).rest = [.contains 0x0a010203#32] ∧ (c0.th 1).results = [] ∧
        (c0.th 0).pc = .idle ∧ c0.writer = none ∧ scan c0.st 0x0a010203#32 = true) ∧
      (∀ t, ∀ call ∈ cexProgs t, ∀ a n, call ≠ .remove a n) ∧
      ((c2.th 1).results = [false] ∧ (c2.th 1).rest = [] ∧ (c2.th 1).pc = .idle ∧
        (c2.th 0).pc = .w (.aCopy 0) 0xc0a80000#32 16 ∧ c2.writer = some 0 ∧
        c2.st = { matchAll := false, mapsMode := true, list := [(0x0a000000#32, 8)], maps := [] }) := by
  obtain ⟨c0, h0, hm⟩ := Option.bind_eq_some_iff.1 cex_check
  obtain ⟨c2, h2, key⟩ := Option.map_eq_some_iff.1 hm
  rw [Bool.and_eq_true] at key
  have r0 : ReachableNoRLock 1 cexProgs c0 := runSched_closed (fun _ _ t => .step t) _ _ c0 .init h0
  have r2 := runSched_closed (fun _ _ t => .step t) _ c0 c2 r0 h2
  refine ⟨c0, c2, r0, r2, h2, ?_, ?_, ?_⟩
  · simpa only [cexBefore, Bool.and_eq_true, beq_iff_eq, and_assoc] using key.1
  · intro t call hc a n
    match t, hc with
    | 0, hc => rcases hc with _ | ⟨_, _ | ⟨_, ⟨⟩⟩⟩ <;> nofun
    | 1, hc => rcases hc with _ | ⟨_, ⟨⟩⟩; nofun
    | _ + 2, hc => cases hc
  · simpa only [cexAfter, Bool.and_eq_true, beq_iff_eq, and_assoc] using key.2

/-- with the reader lock the same schedule is impossible: the reader is blocked at RLock while the
    writer is inside the migration -/
theorem with_rlock_reader_blocked :
    ((runSched 1 true (initCfg cexProgs) (cexSched0 ++ List.replicate 5 0 ++ [1])).map fun c =>
      (step 1 true c 1).isSome) = some false := by
  decide

/-! ### non-vacuity -/

/-- list size 1; two writers owning disjoint keys (the second also toggles 0.0.0.0/0), two readers -/
def nvProgs : Tid → List Call := fun t =>
  if t = 0 then [.add 0x0a000000#32 8, .add 0xc0a80000#32 16, .remove 0x0a000000#32 8]
  else if t = 1 then [.add 0xac100000#32 12, .remove 0 0]
  else if t = 2 then [.contains 0x0a010203#32, .contains 0xac100001#32]
  else if t = 3 then [.contains 0x0a010203#32] else []

theorem nvProgs_validated : Validated nvProgs := by
  intro t c hc
  match t, hc with
  | 0, hc => rcases hc with _ | ⟨_, _ | ⟨_, _ | ⟨_, ⟨⟩⟩⟩⟩ <;> decide
  | 1, hc => rcases hc with _ | ⟨_, _ | ⟨_, ⟨⟩⟩⟩ <;> decide
  | 2, hc => rcases hc with _ | ⟨_, _ | ⟨_, ⟨⟩⟩⟩ <;> decide
  | 3, hc => rcases hc with _ | ⟨_, ⟨⟩⟩; decide
  | _ + 4, hc => cases hc

/-- a complete run: both readers overlap inside their read sections, the migration happens, all
    threads finish -/
def nvSched : List Tid :=
  [0, 0, 0, 0, 0, 2, 2, 3, 3, 3, 2, 2, 2, 3, 3, 1, 1, 1, 1, 1, 1, 1, 1, 1, 1, 0, 0, 0, 0, 0, 0, 0, 0,
   2, 2, 2, 2, 2, 2, 2, 2, 2, 2, 2, 2, 2, 2, 2, 2]

/-- `mutual_exclusion` is not vacuous: a writer is inside its critical section (in the middle of
    the migration) and a reader that has done its load is blocked at RLock -/
example : ∃ c, Reachable 1 nvProgs c ∧
    ((c.th 1).pc.inW && (c.th 2).pc == .r .rlock 0x0a010203#32 && (step 1 true c 2).isNone) = true :=
  exists_reachable_of_check 1 nvProgs ([0, 0, 0, 0, 0, 2, 1, 1, 1, 1, 1, 1]) _ (by decide)

/-- several readers may be inside their read sections at once (then no writer is) -/
example : ∃ c, Reachable 1 nvProgs c ∧
    ((c.th 2).pc.inR && (c.th 3).pc.inR && c.readers == [3, 2] && c.writer == none) = true :=
  exists_reachable_of_check 1 nvProgs ([0, 0, 0, 0, 0, 2, 2, 3, 3]) _ (by decide)

/-- the hypotheses of `fine_final_agreement` are satisfiable: a finished run … -/
theorem nv_finished : ∃ c, Reachable 1 nvProgs c ∧
    ((List.range 4).all (fun t => (c.th t).pc == .idle && (c.th t).rest == []) &&
      (c.th 2).results == [true, true] && (c.th 3).results == [true] && c.st.mapsMode) = true :=
  exists_reachable_of_check 1 nvProgs nvSched _ (by decide)

/-- … and an ownership map: thread 1 owns 172.16.0.0/12 and 0.0.0.0/0, thread 0 everything else -/
def nvOwner (k : Addr × Nat) : Nat := if k.2 = 12 ∨ k.2 = 0 then 1 else 0

theorem nvOwner_owns : ∀ t, ∀ o ∈ writeOps (nvProgs t), nvOwner (C12.opKey o) = t := by
  intro t
  match t with
  | 0 | 1 | 2 | 3 => decide
  | _ + 4 => nofun

/-- in the configuration of `nv_finished` every thread has finished -/
theorem nv_done {c : Cfg} (hr : Reachable 1 nvProgs c)
    (h : (List.range 4).all (fun t => (c.th t).pc == .idle && (c.th t).rest == []) = true) (t : Tid) :
    (c.th t).pc = .idle ∧ (c.th t).rest = [] := by
  match t with
  | 0 | 1 | 2 | 3 => simpa only [Bool.and_eq_true, beq_iff_eq] using List.all_eq_true.1 h _ (by decide)
  | t + 4 => exact idle_of_empty_prog 1 nvProgs c hr _ rfl

/-- `fine_final_agreement` instantiated: after the run above the filter answers as "thread 0's
    calls, then thread 1's calls" -/
example (ip : Addr) : ∃ c, Reachable 1 nvProgs c ∧
    (containsAddr c.st ip = true ↔
      specMem (specRun (writeOps (nvProgs 0) ++ writeOps (nvProgs 1))) ip) := by
  obtain ⟨c, hr, hc⟩ := nv_finished
  simp only [Bool.and_eq_true] at hc
  refine ⟨c, hr, fine_final_agreement 1 nvProgs nvProgs_validated c hr (nv_done hr hc.1.1.1) nvOwner
    nvOwner_owns _ (fun t => ?_) ip⟩
  match t with
  | 0 | 1 | 2 | 3 => decide
  | _ + 4 => rfl

/-- every reachable configuration has an explanation; here one whose lookup log is not empty -/
example : ∃ c a, Explains 1 nvProgs c a ∧ a.log ≠ [] := by
  obtain ⟨c, hr, hc⟩ := nv_finished
  obtain ⟨a, ha⟩ := fine_refines_coarse 1 nvProgs c hr
  refine ⟨c, a, ha, fun hlog => ?_⟩
  simp only [Bool.and_eq_true, beq_iff_eq] at hc
  have := fine_results_logged 1 nvProgs nvProgs_validated c a ha 3 (by rw [(nv_done hr hc.1.1.1 3).1]; rfl)
  rw [hlog, hc.1.2] at this
  cases this

end Glb.C12b
