/-
  C15 — Logger.Relay contains handler panics and logs each request once, truthfully.
  Only property theorems live here; helper lemmas are in Glb/Proofs/Relay.lean.

  Quantifier (DESIGN.md §4 C15, §8.1): every handler behaviour (list of `writeHeader c | write |
  flush | panic v | ret`, flushes anywhere) whose status is set once — i.e. after the status has
  been set, explicitly or implicitly by the first `Write` or `Flush`, the handler does not call
  `WriteHeader` again — with codes in
  200..599, every panic value other than `http.ErrAbortHandler`, every threshold of the log
  handler, every request.  The two excluded shapes really break "REQ_END.code = status on the
  wire" in the code as it is (net/http keeps the first header, `ResponseWriter.Status` the
  last): see `second_header_breaks_truth`.
-/
import Glb.Proofs.Relay

namespace Glb.C15
open Glb.Relay

/-- the behaviours the property quantifies over -/
structure InScope (beh : List Ev) : Prop where
  once : setOnce beh = true
  codes : codesIn 200 599 beh
  notAbort : panicOf beh ≠ some .abort

/-- the status the client must see: the handler's own status if it set one, otherwise 500 after a
    panic and 200 after a plain return -/
def clientStatus (beh : List Ev) : Nat :=
  match statusOf beh with
  | some c => c
  | none => if (panicOf beh).isSome then 500 else 200

/-- the Error records the request must produce -/
def wantErr (req : Req) (beh : List Ev) : List Rec :=
  match panicOf beh with
  | some (.other k) => [.error k req.id]
  | _ => []

theorem relay_contract (thr : Nat) (req : Req) (beh : List Ev) (h : InScope beh) :
    let o := relay thr req beh
    -- no panic escapes
    o.escaped = none
    -- Relay itself answers 500 ⇔ the handler panicked while no status was set
    ∧ (o.relay500 = true ↔ (panicOf beh).isSome = true ∧ statusOf beh = none)
    ∧ (o.relay500 = true → o.wire = 500)
    -- what the client receives
    ∧ o.wire = clientStatus beh
    -- Info level: exactly one REQ_BEG (first) and one REQ_END (last), same method/URI/ip/id,
    -- REQ_END.code = the status the client received
    ∧ (thr ≤ levelInfo →
        o.log.filter Rec.isBeg = [.reqBeg req] ∧ o.log.filter Rec.isEnd = [.reqEnd o.wire req]
        ∧ o.log.head? = some (.reqBeg req) ∧ o.log.getLast? = some (.reqEnd o.wire req))
    -- a panic adds exactly one Error record with the value and the id
    ∧ (thr ≤ levelError → o.log.filter Rec.isErr = wantErr req beh)
    -- level gates
    ∧ (levelInfo < thr → o.log.filter Rec.isBeg = [] ∧ o.log.filter Rec.isEnd = [])
    ∧ (levelError < thr → o.log = []) := by
  intro o
  have ho : o = _ := relay_eq thr req beh h.once (by decide) h.codes
  have hna := h.notAbort
  rw [levelInfo_eq, levelError_eq, ho]
  -- what the client sees depends on status and panic only, the log on panic and threshold only
  have hw : (sends500 beh = true ↔ (panicOf beh).isSome = true ∧ statusOf beh = none) ∧
      (sends500 beh = true → wireOf beh = 500) ∧ wireOf beh = clientStatus beh := by
    unfold wireOf sends500 clientStatus
    cases statusOf beh <;> rcases hp : panicOf beh with _ | _ | k <;> simp [hp] at hna ⊢
  refine ⟨rfl, hw.1, hw.2.1, hw.2.2, ?_⟩
  generalize wireOf beh = w
  unfold wantErr errRecs
  rcases panicOf beh with _ | _ | k <;>
    by_cases h4 : thr ≤ 4 <;> by_cases h12 : thr ≤ 12 <;>
    simp [h4, h12, List.filter, Rec.isBeg, Rec.isEnd, Rec.isErr] <;> omega

/-- `http.ErrAbortHandler` is swallowed silently: no Error record, no 500, nothing escapes, and
    the request is still logged once (the property excludes this value; this is what the code
    does with it). -/
theorem abort_is_swallowed (thr : Nat) (req : Req) (beh : List Ev) (h1 : setOnce beh = true)
    (hc : codesIn 200 599 beh) (hp : panicOf beh = some .abort) :
    let o := relay thr req beh
    o.escaped = none ∧ o.relay500 = false ∧ o.log.filter Rec.isErr = [] := by
  intro o
  have ho : o = _ := relay_eq thr req beh h1 (by decide) hc
  rw [ho]
  unfold errRecs sends500
  cases hs : statusOf beh <;>
    by_cases h4 : thr ≤ 4 <;> by_cases h12 : thr ≤ 12 <;> simp [hp, h4, h12, Rec.isErr]

/-- Records of concurrent requests pair up by id: in ANY interleaving of the logs of requests
    with pairwise different ids, selecting the records with request `i`'s id gives back exactly
    the log of request `i` (so the contract above holds per id). Ids are unique by C05. -/
theorem concurrent_pairing (thr : Nat) (reqs : Nat → Req) (behs : Nat → List Ev) (n : Nat)
    (hinj : ∀ i j, (reqs i).id = (reqs j).id → i = j)
    (hscope : ∀ i, i < n → InScope (behs i))
    (merged : List Rec)
    (hm : Shuffle (fun i => if i < n then (relay thr (reqs i) (behs i)).log else []) merged) :
    ∀ i, i < n → merged.filter (fun r => r.id == (reqs i).id) = (relay thr (reqs i) (behs i)).log := by
  intro i hi
  have := shuffle_filter (fun i => (reqs i).id) hinj _ merged hm (by
    intro j r hr
    by_cases hj : j < n
    · simp only [hj, if_true] at hr
      exact log_ids thr (reqs j) (behs j) (hscope j hj).once (by decide) (hscope j hj).codes r hr
    · simp [hj] at hr) i
  simpa [hi] using this

/-! ### why the hypotheses are there (concrete witnesses, evaluated on the model of the code) -/

def req0 : Req := ⟨[71, 69, 84], [47], [49], [50]⟩

/-- A second status (explicit after explicit, or explicit after the implicit 200 of a `Write`)
    makes REQ_END report a status the client did not receive. -/
theorem second_header_breaks_truth :
    (relay 4 req0 [.writeHeader 200, .writeHeader 404]).wire = 200
    ∧ (relay 4 req0 [.writeHeader 200, .writeHeader 404]).log.filter Rec.isEnd = [.reqEnd 404 req0]
    ∧ (relay 4 req0 [.write, .writeHeader 404]).wire = 200
    ∧ (relay 4 req0 [.write, .writeHeader 404]).log.filter Rec.isEnd = [.reqEnd 404 req0] := by
  simp only [relay_now]
  decide

/-- The order of the two `defer`s matters: were the recover function registered BEFORE the
    REQ_END function (so that it ran after it), a panic at Status = 0 would be logged as 200 and
    the 500 would never be sent.  `Tie.Relay.recover_runs_first` excludes this for /repo. -/
theorem swapped_defers_lose_500 :
    let P := { progNow with body := [.logBeg, .deferRecover, .deferEnd, .callHandler] }
    (relayWith P 4 req0 [.panic (.other 1)]).relay500 = false
    ∧ (relayWith P 4 req0 [.panic (.other 1)]).wire = 200 := by
  decide

/-- Sending the 500 without the `Status == 0` guard would make REQ_END lie after a partial
    response. `Tie.Relay.error500_only_when_unset` excludes this for /repo. -/
theorem unguarded_500_breaks_truth :
    let P := { progNow with guard500 := none }
    (relayWith P 4 req0 [.writeHeader 404, .panic (.other 1)]).wire = 404
    ∧ (relayWith P 4 req0 [.writeHeader 404, .panic (.other 1)]).log.filter Rec.isEnd
        = [.reqEnd 500 req0] := by
  decide

/-- The pinned commit's `Flush` let net/http send the implicit 200 without recording it in
    `Status`: a handler that flushes and then panics got Relay's 500 page appended to a 200
    response and REQ_END said 500.  `Tie.Relay.flush_records_status` excludes this for /repo
    (fix 065898d), and `relay_contract` covers flushes anywhere in the behaviour. -/
theorem flush_then_panic_breaks_truth_pinned :
    (relayWith progPinned 4 req0 [.flush, .panic (.other 1)]).wire = 200
    ∧ (relayWith progPinned 4 req0 [.flush, .panic (.other 1)]).relay500 = true
    ∧ (relayWith progPinned 4 req0 [.flush, .panic (.other 1)]).log.filter Rec.isEnd
        = [.reqEnd 500 req0]
    ∧ (relay 4 req0 [.flush, .panic (.other 1)]).relay500 = false
    ∧ (relay 4 req0 [.flush, .panic (.other 1)]).log.filter Rec.isEnd = [.reqEnd 200 req0] := by
  simp only [relay_now]
  decide

/-! ### non-vacuity -/

example : InScope [.flush, .write, .flush, .panic (.other 2)] :=
  ⟨by decide, by intro c hc; simp at hc, by decide⟩

example : InScope [.writeHeader 201, .flush, .write, .flush] :=
  ⟨by decide, by intro c hc; simp at hc; omega, by decide⟩

/-- flush, then panic: the client already has its 200; no 500, REQ_END says 200 -/
example : relay 4 req0 [.flush, .panic (.other 2)] =
    ⟨[.reqBeg req0, .error 2 req0.id, .reqEnd 200 req0], 200, false, none⟩ := by
  rw [relay_now]
  decide


example : InScope [.writeHeader 404, .write, .panic (.other 7)] :=
  ⟨by decide, by intro c hc; simp at hc; omega, by decide⟩

example : InScope [.panic (.other 3)] := ⟨by decide, by intro c hc; simp at hc, by decide⟩

example : InScope [] := ⟨by decide, by intro c hc; simp at hc, by decide⟩

/-- panic before any status: 500 from Relay, three records -/
example : relay 4 req0 [.panic (.other 3)] =
    ⟨[.reqBeg req0, .error 3 req0.id, .reqEnd 500 req0], 500, true, none⟩ := by
  rw [relay_now]
  decide

/-- panic after a partial 404 response: no 500, the client's 404 is what REQ_END says -/
example : relay 4 req0 [.writeHeader 404, .write, .panic (.other 7)] =
    ⟨[.reqBeg req0, .error 7 req0.id, .reqEnd 404 req0], 404, false, none⟩ := by
  rw [relay_now]
  decide

/-- Warn threshold: only the Error record -/
example : relay 8 req0 [.panic (.other 3)] = ⟨[.error 3 req0.id], 500, true, none⟩ := by
  rw [relay_now]
  decide

/-- the interleaving hypothesis `hm` of `concurrent_pairing` at an instance: two requests, records interleaved -/
example : Shuffle (fun i => if i < 2 then
      (relay 4 (⟨[71], [47], [49], [i.toUInt8]⟩) ([[.ret], [.panic (.other 1)]].getD i [])).log else [])
    [.reqBeg ⟨[71], [47], [49], [0]⟩, .reqBeg ⟨[71], [47], [49], [1]⟩, .error 1 [1],
     .reqEnd 200 ⟨[71], [47], [49], [0]⟩, .reqEnd 500 ⟨[71], [47], [49], [1]⟩] := by
  simp only [relay_now]
  refine .step _ 0 _ [.reqEnd 200 ⟨[71], [47], [49], [0]⟩] _ rfl ?_
  refine .step _ 1 _ [.error 1 [1], .reqEnd 500 ⟨[71], [47], [49], [1]⟩] _ rfl ?_
  refine .step _ 1 _ [.reqEnd 500 ⟨[71], [47], [49], [1]⟩] _ rfl ?_
  refine .step _ 0 _ [] _ rfl ?_
  refine .step _ 1 _ [] _ rfl ?_
  exact .done _ fun
    | 0 | 1 => rfl
    | n + 2 => by simp [upd]; omega

end Glb.C15
