/-
  C08 — no head-of-line blocking: a pending task and an idle worker always have an enabled
  hand-over (through the universal queue when the lane's own worker is busy).
  (`C08_at_most_L_running` is a safety invariant and lives in Props/C08a.lean.)
  Helper lemmas: `Glb/Proofs/TaskLaneProgress.lean`; witness: `Glb/Proofs/TaskLaneTraces.lean`.
-/
import Glb.Proofs.TaskLaneProgress
import Glb.Proofs.TaskLaneTraces

namespace Glb.TaskLane

variable (L Q : Nat)

/-- no head-of-line blocking: live context, nothing enabled, something pending ⇒ every worker is busy -/
theorem C08_no_head_of_line_blocking (s : St) (h : Reachable (cfg L Q) s) (hc : s.cancelled = false)
    (hq : Quiescent (cfg L Q) s) (hp : s.pending (cfg L Q) ≠ []) : ∀ i, i < L → s.running i := by
  have hw := h.inv
  intro j hj
  apply Classical.byContradiction
  intro hr
  exact hp (pending_nil_of_idle (quiescent_idle hq hw hc hj hr))

/-- the same, read as progress: an idle worker `j` and a task held by a queue goroutine `i` blocked
    at q4 (any lanes `i`, `j`) always have an enabled hand-over step -/
theorem C08_idle_worker_takes_pending (s : St) (i j : Nat) (hi : i < L) (hj : j < L)
    (hq : (s.qs i).pc = 4) (hw : (s.ws j).pc = 2) (hp : (s.ws j).parked = true) :
    ∃ s', Step (cfg L Q) s .tau s' :=
  hand_enabled hi hj hq hw hp

/-! ### Non-vacuity -/

/-- the hypotheses of `C08_no_head_of_line_blocking` are satisfiable: `cfg 1 1`, task 7 is running
    (the worker is pinned), task 8 was accepted afterwards and is held by the queue goroutine at
    q4 — reachable, live, quiescent, pending = [8] -/
example : Reachable (cfg 1 1) Trace.b23 ∧ Trace.b23.cancelled = false ∧
    Quiescent (cfg 1 1) Trace.b23 ∧ Trace.b23.pending (cfg 1 1) = [8] :=
  ⟨Trace.reachB, rfl, Trace.quiescentB, by decide⟩

/-- … and the conclusion there: the (only) worker is running -/
example : Trace.b23.running 0 :=
  C08_no_head_of_line_blocking 1 1 _ Trace.reachB rfl Trace.quiescentB (by decide) 0 Nat.zero_lt_one

/-- a state with something pending and an idle worker is NOT quiescent: `Trace.s10` (queue goroutine
    at q3 holding task 7, worker parked at w2) -/
example : Trace.s10.pending (cfg 1 1) = [7] ∧ ¬ Trace.s10.running 0 ∧ ¬ Quiescent (cfg 1 1) Trace.s10 := by
  refine ⟨by decide, fun h => absurd h.1 (by decide), fun hq => ?_⟩
  have hr : Reachable (cfg 1 1) Trace.s10 := Trace.reach10
  have := C08_no_head_of_line_blocking 1 1 _ hr rfl hq (by decide) 0 Nat.zero_lt_one
  exact absurd this.1 (by decide)

end Glb.TaskLane
