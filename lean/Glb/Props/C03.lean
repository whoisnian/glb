/-
  C03 — Derived loggers are isolated: output depends only on own derivation chain.
  Helper lemmas are in Glb/Proofs/DeriveSlices.lean; besides the property theorems only the executable
  isolation check (`isoCheck`, `IsolatedAt`) and the example histories live here.

  Setting (Glb/Model/DeriveSlices.lean): Go slices over an explicit heap, `append` in place
  whenever there is spare capacity and otherwise into a fresh array of ANY capacity ≥ len + n
  (`Policy`, universally quantified; `goPolicy` is Go's real sequence), `clone()` = clip.
  Histories are arbitrary lists of derive / log operations over a growing forest, for the three
  handler shapes; rendering is an opaque parameter `R : Renderer α`.
  `true` below is the clip flag; `Glb/Tie/LoggerClone.lean` proves that it is what the three
  `clone()` methods in /repo say (`codeClips k = true`) and restates `isolation` for `codeClips`.
-/
import Glb.Proofs.DeriveSlices

namespace Glb.C03
open Glb.Derive

variable {α : Type}

/-- **isolation.**  For every renderer, every growth policy, every handler kind, every history
    `ops`, every handle `i` existing after `ops` and every continuation `more` (= every later point
    of the history): the handle still denotes the same handler with the same chain, and what that
    handler's `preformatted` slice reads through the heap — after all the derivations and appends
    done meanwhile by parents, siblings and descendants — is exactly the pure concatenation of what
    its own chain appended; its shape fields are those of its own chain as well. -/
theorem isolation (R : Renderer α) (g : Policy) (k : Kind) (ops more : List (HOp α))
    (i : Nat) (h : Handler) (chain : List (DOp α))
    (hi : (run R true g k ops).forest[i]? = some (h, chain)) :
    (run R true g k (ops ++ more)).forest[i]? = some (h, chain) ∧
    h.view (run R true g k (ops ++ more)).heap = renderChain R k chain := by
  have hstable : (run R true g k (ops ++ more)).forest[i]? = some (h, chain) :=
    getElem?_of_prefix (run_append ops more ▸ runFrom_forest more _) hi
  exact ⟨hstable, ((run_good _).get hstable).2⟩

/-- **a derivation writes no array that existed before it** (with clipping, any policy, any
    reachable state).  This is the invariant behind `isolation` — every in-place write lands in an
    array no published handler can see — and it is why *concurrent* derivations from a shared
    parent cannot disturb each other or a concurrent `Handle`: a derivation only reads the parent's
    fields and writes arrays it allocated itself. -/
theorem derive_writes_only_fresh_arrays (R : Renderer α) (g : Policy) (k : Kind) (ops : List (HOp α))
    (p : Nat) (op : DOp α) (a : Nat) (ha : a < (run R true g k ops).heap.next) :
    (step R true g (run R true g k ops) (.derive p op)).heap.mem a = (run R true g k ops).heap.mem a := by
  cases hp : (run R true g k ops).forest[p]? with
  | none => rw [step_derive_none hp]
  | some hc =>
    rw [step_derive hp]
    exact (derive_spec op ((run_good ops).get hp).1).1.2 a ha

/-- every line ever logged in any history is the line of the pure rendering of the logging
    handler's own chain -/
theorem logged_lines_depend_on_own_chain (R : Renderer α) (g : Policy) (k : Kind) (ops : List (HOp α))
    (e : Logged α) (he : e ∈ (run R true g k ops).out) :
    ∃ (h : Handler) (chain : List (DOp α)), (run R true g k ops).forest[e.handle]? = some (h, chain) ∧
      e.line = lineOf R (renderChain R k chain).pre (renderChain R k chain).shape e.hd e.attrs :=
  (run_good ops).2 e he

/-- a logger built ALONE from a fresh root by replaying one chain (under any growth policy) writes
    exactly one line: the line of the pure rendering of that chain -/
theorem replay_alone (R : Renderer α) (g : Policy) (k : Kind) (chain : List (DOp α))
    (hd : Bytes) (attrs : List α) :
    replayAlone R true g k chain hd attrs =
      [lineOf R (renderChain R k chain).pre (renderChain R k chain).shape hd attrs] := by
  obtain ⟨h', e1, e2⟩ :=
    runFrom_alone (R := R) (c := true) (g := g) chain (St.init k) 0 (rootHandler k) [] rfl rfl
  rw [Nat.zero_add, List.nil_append] at e1
  rw [replayAlone, run_append, run, runFrom, List.foldl_cons, List.foldl_nil, step_log e1, e2,
    lineOf_view ((runFrom_good _ _ good_init).get e1).2]
  rfl

/-- **isolated replay.**  For any tree of derivations built and used in any order (any history,
    any growth policy `g`), the line a logger writes for a record equals the line written by a
    logger built alone from a fresh root by replaying just that logger's own chain (under any,
    possibly different, growth policy `g'`). -/
theorem logged_line_eq_isolated_replay (R : Renderer α) (g g' : Policy) (k : Kind) (ops : List (HOp α))
    (e : Logged α) (he : e ∈ (run R true g k ops).out) :
    ∃ (h : Handler) (chain : List (DOp α)), (run R true g k ops).forest[e.handle]? = some (h, chain) ∧
      replayAlone R true g' k chain e.hd e.attrs = [e.line] := by
  obtain ⟨h, chain, h1, h2⟩ := logged_lines_depend_on_own_chain R g k ops e he
  exact ⟨h, chain, h1, by rw [replay_alone, h2]⟩

/-- `with_is_prepend`, alias-free level: a handler extended by `WithAttrs(as)` renders a record with
    attributes `bs` exactly as the original handler renders the record with `as ++ bs`: the
    rendering of `as` sits between the parent's pre-rendered bytes and the record's own attributes,
    in the same order and in the same group nesting (same shape threading, same closers). -/
theorem with_is_prepend_pure (R : Renderer α) (v : PView) (as bs : List α) (hd : Bytes) :
    lineOf R (pureStep R v (.withAttrs as)).pre (pureStep R v (.withAttrs as)).shape hd bs =
      lineOf R v.pre v.shape hd (as ++ bs) := by
  simp only [lineOf, pureStep, attrsChunks_append, closers_attrsChunks, List.flatten_append,
    List.append_assoc]

/-- **`with_is_prepend`** on the heap: in every history, at every point, if handle `c` was derived
    from handle `p` by `WithAttrs(as)` (its chain is `p`'s chain followed by `withAttrs as`), then
    for every record `Handle` on `c` writes byte-for-byte what `Handle` on `p` writes for the same
    record with `as` prepended to its attributes — whatever else was derived from `p`, `c` or
    anything else in between. Includes `as = []` and `as` rendering to nothing (empty groups). -/
theorem with_is_prepend (R : Renderer α) (g : Policy) (k : Kind) (ops : List (HOp α))
    (p c : Nat) (hp hc : Handler) (chain : List (DOp α)) (as bs : List α) (hd : Bytes)
    (h1 : (run R true g k ops).forest[p]? = some (hp, chain))
    (h2 : (run R true g k ops).forest[c]? = some (hc, chain ++ [.withAttrs as])) :
    lineOf R (hc.pre.bytes (run R true g k ops).heap) hc.shape hd bs =
      lineOf R (hp.pre.bytes (run R true g k ops).heap) hp.shape hd (as ++ bs) := by
  rw [lineOf_view ((run_good ops).get h1).2,
    lineOf_view (((run_good ops).get h2).2.trans (renderChain_snoc chain _))]
  exact with_is_prepend_pure R _ as bs hd

/-- the hypothesis of `with_is_prepend` is what `derive` produces: deriving from handle `p` creates
    the next handle, whose chain is `p`'s chain followed by the operation (any clip flag) -/
theorem derive_creates (R : Renderer α) (c : Bool) (g : Policy) (s : St α) (p : Nat) (op : DOp α)
    (hp : Handler) (chain : List (DOp α)) (h1 : s.forest[p]? = some (hp, chain)) :
    ∃ hc, (step R c g s (.derive p op)).forest[s.forest.length]? = some (hc, chain ++ [op]) ∧
      (step R c g s (.derive p op)).forest[p]? = some (hp, chain) := by
  rw [step_derive h1]
  exact ⟨_, List.getElem?_concat_length, getElem?_of_prefix (List.prefix_append _ _) h1⟩

/-! ## What the clip guards against -/

/-- executable form of "every handler of the forest reads as the pure rendering of its chain" -/
def isoCheck (R : Renderer α) (k : Kind) (s : St α) : Bool :=
  s.forest.all fun e => decide (e.1.view s.heap = renderChain R k e.2)

/-- the isolation statement for one state -/
def IsolatedAt (R : Renderer α) (k : Kind) (s : St α) : Prop :=
  ∀ (i : Nat) (h : Handler) (chain : List (DOp α)), s.forest[i]? = some (h, chain) →
    h.view s.heap = renderChain R k chain

theorem isoCheck_of_isolated (R : Renderer α) (k : Kind) (s : St α) (h : IsolatedAt R k s) :
    isoCheck R k s = true :=
  List.all_eq_true.2 fun e he =>
    let ⟨i, hi⟩ := List.getElem?_of_mem he
    decide_eq_true (h i e.1 e.2 hi)

theorem isolatedAt_run (R : Renderer α) (g : Policy) (k : Kind) (ops : List (HOp α)) :
    IsolatedAt R k (run R true g k ops) :=
  fun _ _ _ hi => ((run_good ops).get hi).2

/-- ASCII literal as bytes (reducible by `decide`, unlike `String.toUTF8`) -/
def b (s : String) : Bytes := s.toList.map (fun c => UInt8.ofNat c.toNat)

/-- parent with spare capacity (5 bytes in an 8-byte size class), then two children -/
def noclipOps : List (HOp (Bytes × Bool)) :=
  [ .derive 0 (.withAttrs [(b " k=v1", true)]),
    .derive 1 (.withAttrs [(b " a", true)]),
    .derive 1 (.withAttrs [(b " b", true)]) ]

/-- **`noclip_counterexample`.**  With clipping off and Go's real growth sequence, the 3-operation
    history "derive a parent carrying 5 bytes (capacity 8), derive two children from it" violates
    isolation: the second child's in-place append rewrites the first child (handle 2). -/
theorem noclip_counterexample :
    ¬ IsolatedAt rawRenderer .nano (run rawRenderer false goPolicy .nano noclipOps) :=
  fun h => absurd (isoCheck_of_isolated _ _ _ h) (by decide)

/-- … concretely: the first child now reads " k=v1 b" although its own chain appended " k=v1 a" -/
theorem noclip_first_child_corrupted :
    ((run rawRenderer false goPolicy .nano noclipOps).forest[2]?.map
        fun e => e.1.view (run rawRenderer false goPolicy .nano noclipOps).heap)
      = some ⟨b " k=v1 b", .nano⟩ ∧
    renderChain rawRenderer .nano
      [.withAttrs [(b " k=v1", true)], .withAttrs [(b " a", true)]] = ⟨b " k=v1 a", .nano⟩ := by
  decide

/-! ## Non-vacuity -/

/-- the same history with the clip: isolated (instance of `isolation`), and the parent really has
    spare capacity there, so the clip is what saves it -/
example : isoCheck rawRenderer .nano (run rawRenderer true goPolicy .nano noclipOps) = true :=
  isoCheck_of_isolated _ _ _ (isolatedAt_run _ _ _ _)
example : ((run rawRenderer true goPolicy .nano noclipOps).forest[1]?.map
    fun e => (e.1.pre.len, e.1.pre.cap)) = some (5, 8) := by decide

/-- a JSON history: group, attrs under the group, siblings, a log in between; every handle reads
    as its own chain and the logged line is the isolated line -/
def jsonOps : List (HOp (Bytes × Bool)) :=
  [ .derive 0 (.withAttrs [(b ",\"a\":1", true)]),
    .derive 1 (.withGroup (b ",\"g\":{")),
    .derive 2 (.withAttrs [(b "\"x\":1", true), (b "", false)]),
    .derive 2 (.withAttrs [(b "\"y\":2", true)]),
    .log 3 (b "{\"msg\":\"m\"") [(b ",\"r\":0", true)],
    .derive 1 (.withAttrs [(b ",\"z\":3", true)]),
    .log 3 (b "{\"msg\":\"m\"") [(b ",\"r\":0", true)] ]

example : isoCheck rawRenderer .json (run rawRenderer true goPolicy .json jsonOps) = true :=
  isoCheck_of_isolated _ _ _ (isolatedAt_run _ _ _ _)
example : (run rawRenderer true goPolicy .json jsonOps).out.map (·.line) =
    [b "{\"msg\":\"m\",\"a\":1,\"g\":{\"x\":1,\"r\":0}}\n", b "{\"msg\":\"m\",\"a\":1,\"g\":{\"x\":1,\"r\":0}}\n"] := by
  decide
/-- hypotheses of `with_is_prepend` are satisfiable: handle 3 is handle 2 + withAttrs -/
example : ((run rawRenderer true goPolicy .json jsonOps).forest[3]?.map (·.2.length),
           (run rawRenderer true goPolicy .json jsonOps).forest[2]?.map (·.2.length)) = (some 3, some 2) := by
  decide
/-- Text: WithGroup appends nothing and shares the parent's array (clipped) -/
example : ((run rawRenderer true goPolicy .text
      [.derive 0 (.withAttrs [(b " a=1", true)]), .derive 1 (.withGroup (b "g")),
       .derive 2 (.withGroup (b "h"))]).forest[3]?.map fun e => (e.1.pre, e.1.shape))
    = some (⟨1, 4, 4⟩, .text (b "g.h")) := by decide
/-- `replayAlone` really produces one line -/
example : replayAlone rawRenderer true goPolicy .nano
    [.withAttrs [(b " k=v1", true)], .withAttrs [(b " a", true)]] (b "hd") [(b " r", true)]
    = [b "hd k=v1 a r\n"] := by decide

end Glb.C03
