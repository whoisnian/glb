/-
  C17b — the C17 theorems for the BYTE-LEVEL algorithm of Go's `path.Clean`.

  `Model/PathCleanBytes.lean` transcribes the stdlib loop (`lazybuf`, `r`, `w`, `dotdot`) line by
  line; `Props/C17.lean` is proved over the segment model `PathClean.clean`.  Here the two are proved
  equal on ALL byte strings (`clean_bytes_eq_segments`, by the loop invariant `Rel` of
  `Proofs/PathCleanBytes.lean`), and the C17 theorems are restated for `cleanBytes` and for
  `resolveUrlPathB` (ResolveUrlPath computed through the byte algorithm) as corollaries.
  Only property theorems live here.
-/
import Glb.Proofs.PathCleanBytes
import Glb.Props.C17

namespace Glb.C17b
open Glb.PathClean Glb.PathNF Glb.PathCleanBytes

/-! ## byte algorithm = segment model -/

/-- **Go's byte-level `path.Clean` loop computes the segment model's `clean`, for every byte
    string** (empty, rooted, relative; any bytes). -/
theorem clean_bytes_eq_segments (p : Bytes) : cleanBytes p = clean p :=
  congrFun cleanBytes_eq p

/-- The loop invariant behind it, for a run from the start: after the whole (unread) input has
    been consumed, the reversed output buffer is the rendering `outOf` of the segment model's stack
    (leading '/' if rooted, elements separated by single slashes) and that stack has the shape
    `names ++ ".."^k` (reversed; `k = 0` when rooted). -/
theorem clean_bytes_invariant (rooted : Bool) (rest : Bytes) :
    ∃ k segs, (split rest).foldl (step rooted) [] = segs ++ List.replicate k dotdot ∧
      (∀ s ∈ segs, Normal s) ∧ (rooted = true → k = 0) ∧
      loop rooted rest.length rest (baseOut rooted) (baseOut rooted).length =
        outOf rooted ((split rest).foldl (step rooted) []) := by
  obtain ⟨dd', k, segs, h1, h2, h3, h4, _⟩ :=
    loop_spec rooted rest.length rest [] (baseOut rooted) (baseOut rooted).length
      (rel_init rooted) (Nat.le_refl _)
  exact ⟨k, segs, h1, h2, h3, h4⟩

/-- One iteration of the Go loop on a state related to the stack `st` reads exactly one path
    element and leaves a state related to `step rooted st element` (stated through the fold over
    the remaining segments), and it consumes at least one byte. -/
theorem clean_bytes_step (rooted : Bool) (c : UInt8) (t : Bytes) (st : List Bytes) (out : Bytes)
    (dd : Nat) (h : Rel rooted st out dd) :
    ∃ st', Rel rooted st' (body rooted c t out dd).2.1 (body rooted c t out dd).2.2 ∧
      (split (body rooted c t out dd).1).foldl (step rooted) st' =
        (split (c :: t)).foldl (step rooted) st ∧
      (body rooted c t out dd).1.length ≤ t.length :=
  body_spec rooted c t st out dd h

/-- The fuel `len(path)` of the transcribed `for r < n` loop never runs out: every sufficient
    amount of fuel gives the same result (each iteration consumes at least one byte). -/
theorem clean_bytes_fuel (rooted : Bool) (fuel : Nat) (rest out : Bytes) (dd : Nat)
    (h : rest.length ≤ fuel) :
    loop rooted fuel rest out dd = loop rooted rest.length rest out dd :=
  loop_fuel rooted fuel rest.length rest out dd h (Nat.le_refl _)

/-- `filepath.Join` and `ResolveUrlPath` through the byte algorithm equal the segment versions -/
theorem join_bytes_eq (elems : List Bytes) : joinB elems = join elems := joinB_eq elems

theorem resolve_bytes_eq (base url : Bytes) :
    resolveUrlPathB base url = resolveUrlPath base url := by
  simp only [resolveUrlPathB, resolveUrlPath, joinB_eq, cleanBytes_eq]

/-! ## C17 for the byte algorithm -/

/-- the byte algorithm prints the lexical normal form, and its output re-reads to it -/
theorem clean_bytes_nf (p : Bytes) : cleanBytes p = (nf p).render ∧ nf (cleanBytes p) = nf p := by
  rw [cleanBytes_eq]
  exact C17.clean_nf p

theorem clean_bytes_idem (p : Bytes) : cleanBytes (cleanBytes p) = cleanBytes p := by
  simp only [cleanBytes_eq]
  exact C17.clean_idem p

theorem clean_bytes_eq_iff (p q : Bytes) : cleanBytes p = cleanBytes q ↔ nf p = nf q := by
  simp only [cleanBytes_eq]
  exact C17.clean_eq_iff p q

/-- a rooted path cleaned by the byte algorithm is "/" followed by real names only -/
theorem clean_bytes_rooted_form (p : Bytes) (h : (nf p).rooted = true) :
    cleanBytes p = slash :: unsplit (nf p).stack ∧ ∀ s ∈ (nf p).stack, Normal s := by
  rw [cleanBytes_eq]
  exact ⟨C17.clean_rooted_form p h, C17.clean_rooted_no_dotdot p h⟩

/-- **C17 over the stdlib byte algorithm.**  For every non-empty base and every URL path (arbitrary
    bytes) the path resolved through the byte-level `Clean` has the rootedness of the base and its
    normal form is the normal form of the base followed by the normal-form segments of
    `"/" ++ url`, all real names: the result is the base itself or lies beneath it. -/
theorem resolve_contained_bytes (base url : Bytes) (hb : base ≠ []) :
    beneathVia base (resolveUrlPathB base url) (nf (slash :: url)).stack := by
  rw [resolve_bytes_eq]
  exact C17.resolve_contained base url hb

theorem resolve_beneath_bytes (base url : Bytes) (hb : base ≠ []) :
    beneath base (resolveUrlPathB base url) :=
  ⟨_, resolve_contained_bytes base url hb⟩

/-- the resolved path is a fixed point of the byte algorithm -/
theorem resolve_clean_bytes (base url : Bytes) (hb : base ≠ []) :
    cleanBytes (resolveUrlPathB base url) = resolveUrlPathB base url := by
  rw [resolve_bytes_eq, cleanBytes_eq]
  exact C17.resolve_clean base url hb

/-- the returned bytes: the base's normal form with the URL's names appended, printed -/
theorem resolve_text_bytes (base url : Bytes) (hb : base ≠ []) :
    resolveUrlPathB base url =
      render (nf base).rooted ((nf base).stack ++ (nf (slash :: url)).stack) ∧
    cleanBytes base = render (nf base).rooted (nf base).stack := by
  rw [resolve_bytes_eq, cleanBytes_eq]
  exact C17.resolve_text base url hb

/-- for a URL path without "." / ".." segments the result is `filepath.Join(base, url)` -/
theorem resolve_plain_bytes (base url : Bytes) (hb : base ≠ []) (hu : DotFree url) :
    resolveUrlPathB base url = cleanBytes (base ++ slash :: url) ∧
      resolveUrlPathB base url = joinB [base, url] := by
  rw [resolve_bytes_eq, cleanBytes_eq, joinB_eq]
  exact C17.resolve_plain base url hb hu

/-! ## Non-vacuity: the byte algorithm evaluated on concrete hostile inputs -/

-- "" ↦ ".";  "/" ↦ "/";  "//a//" ↦ "/a";  "./" ↦ "."
example : cleanBytes [] = [46] := by decide
example : cleanBytes [47] = [47] := by decide
example : cleanBytes [47,47,97,47,47] = [47,97] := by decide
example : cleanBytes [46,47] = [46] := by decide
-- "a/../../b/./c//" ↦ "../b/c" (backtrack to dotdot = 0, then append "..", then two names)
example : cleanBytes [97,47,46,46,47,46,46,47,98,47,46,47,99,47,47] = [46,46,47,98,47,99] := by decide
-- "/../ab/cd/.." ↦ "/ab" (rooted: ".." at the root dropped; backtrack stops at the '/')
example : cleanBytes [47,46,46,47,97,98,47,99,100,47,46,46] = [47,97,98] := by decide
-- "../../a/.." ↦ "../.." (backtrack stops at dotdot = 5)
example : cleanBytes [46,46,47,46,46,47,97,47,46,46] = [46,46,47,46,46] := by decide
-- "..a/.b/..." ↦ itself: names that merely start with dots are ordinary elements
example : cleanBytes [46,46,97,47,46,98,47,46,46,46] = [46,46,97,47,46,98,47,46,46,46] := by decide
-- ResolveUrlPath through the byte algorithm: "/data", "../../etc/passwd" ↦ "/data/etc/passwd"
example : resolveUrlPathB [47,100,97,116,97] [46,46,47,46,46,47,101,116,99,47,112,97,115,115,119,100]
    = [47,100,97,116,97,47,101,116,99,47,112,97,115,115,119,100] := by decide
-- "/data", "a/../../b" ↦ "/data/b";  "/data", "" ↦ "/data";  "..", "/../a//" ↦ "../a"
example : resolveUrlPathB [47,100,97,116,97] [97,47,46,46,47,46,46,47,98] = [47,100,97,116,97,47,98] := by decide
example : resolveUrlPathB [47,100,97,116,97] [] = [47,100,97,116,97] := by decide
example : resolveUrlPathB [46,46] [47,46,46,47,97,47,47] = [46,46,47,97] := by decide
-- "/", "..\\.." ↦ "/..\\.." (backslash is an ordinary byte)
example : resolveUrlPathB [47] [46,46,92,46,46] = [47,46,46,92,46,46] := by decide
-- the invariant's hypothesis is satisfiable beyond the initial state: "../a" relative
example : Rel false [[97], dotdot] [97,47,46,46] 2 :=
  ⟨1, [[97]], rfl, by decide, by decide, rfl, rfl⟩
example : Rel true [[98], [97]] [98,47,97,47] 1 :=
  ⟨0, [[98], [97]], rfl, by decide, by decide, rfl, rfl⟩
-- hypotheses of the corollaries: a dot-free url and a rooted path exist
example : DotFree [97,47,47,98,47] := by decide
example : (nf [47,97]).rooted = true := by decide

end Glb.C17b
