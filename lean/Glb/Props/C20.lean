/-
  C20 — daemon.Launch returns the daemon's pid, after Done(), with the daemon orphaned.
  Only property theorems live here; helper lemmas are in Glb/Proofs/Daemon.lean.

  Quantifier: every launcher order accepted by `GoodOrder` (signal.Notify precedes the only
  cmd.Start(), the pid is printed after the start, exactly one select) — `Tie.Daemon` re-proves
  this for what /repo's `launch` does now, with and without the `verifPause` hook — and EVERY
  interleaving of launcher, daemon, signal delivery, pause release and caller.  An interleaving
  is a list of labels accepted by `run`; it is complete when nothing but the daemon's own work
  is enabled any more (`Maximal`).  `launch_terminates` shows that every other step uses up a
  bounded budget, so every fair execution reaches such a state.
-/
import Glb.Proofs.Daemon

namespace Glb.C20
open Glb.Daemon

/-- For every launcher order accepted by `GoodOrder`: for every complete interleaving in which the daemon reaches
    `Done()`, `Launch` has returned `(pid of the daemon, nil)`; it returned after the `done` step;
    the launcher has exited and the daemon is alive and re-parented. -/
theorem launch_ok (order : List LStep) (hgood : GoodOrder order) (tr : List Label) (s : St)
    (hrun : run tr (init order) = some s) (hdone : Label.done ∈ tr) (hmax : Maximal s) :
    s.result = some (.ok daemonPid)
    ∧ (∀ pre post, tr = pre ++ Label.ret :: post → Label.done ∈ pre)
    ∧ s.lstatus = .exited ∧ s.dstate = .ran ∧ s.dparent = .init := by
  have hinv := inv_run order hgood tr s hrun
  have hds : s.doneSeen = true := by
    rw [doneSeen_run tr _ s hrun]; simp [init, hdone]
  obtain ⟨hres, _, hex, hran, hpar⟩ := maximal_done s hinv hds hmax
  refine ⟨hres, ?_, hex, hran, hpar⟩
  intro pre post htr
  subst htr
  obtain ⟨s1, h1, h2⟩ := run_append pre (Label.ret :: post) _ s hrun
  obtain ⟨s2, hs2, h3⟩ := run_cons h2
  -- the result fixed by this `ret` is the final one
  obtain ⟨r, hr⟩ := result_ret hs2
  have hfin := run_preserves (result_step r) post s2 s hr h3
  rw [hres] at hfin
  rw [← hfin] at hr
  have hinv2 := (inv_run order hgood pre s1 h1).step _ _ _ hs2
  have := hinv2.retAfterDone (hinv2.resultOk _ hr)
  rw [doneSeen_step hs2, doneSeen_run pre _ s1 h1] at this
  simpa [init] using this

/-- Safety on every (also incomplete) interleaving: whenever `Launch` has returned, it returned
    the daemon's pid after `Done()`, with the launcher gone and the daemon re-parented — or the
    daemon died before calling `Done()`.  In particular `Launch` never reports failure for a
    daemon that reached `Done()`. -/
theorem launch_safe (order : List LStep) (hgood : GoodOrder order) (tr : List Label) (s : St)
    (hrun : run tr (init order) = some s) (r : Result) (hr : s.result = some r) :
    (r = .ok daemonPid ∧ s.retAfterDone = true ∧ Label.done ∈ tr ∧ s.lstatus = .exited
        ∧ s.dstate = .ran ∧ s.dparent = .init)
    ∨ (r = .err ∧ s.dstate = .crashed ∧ Label.done ∉ tr) := by
  have hinv := inv_run order hgood tr s hrun
  have hds : s.doneSeen = true ↔ Label.done ∈ tr := by
    rw [doneSeen_run tr _ s hrun]; simp [init]
  obtain ⟨hex, hok | ⟨herr, hcr⟩⟩ := hinv.result r hr
  · left
    subst hok
    have hrad := hinv.resultOk _ hr
    have hdone := hinv.retAfterDone hrad
    exact ⟨rfl, hrad, hds.mp hdone, hex, hinv.ran.mp hdone, hinv.exited_parent hex⟩
  · right
    refine ⟨herr, hcr, fun hmem => ?_⟩
    have := hinv.ran.mp (hds.mpr hmem)
    rw [hcr] at this
    cases this

/-- Every step other than the daemon's own work strictly decreases `budget`: there is no
    infinite interleaving with infinitely many such steps, i.e. every fair execution reaches a
    `Maximal` state (and then `launch_ok` applies). -/
theorem launch_terminates (s s' : St) (l : Label) (hl : l ≠ .work) (h : step s l = some s') :
    budget s' < budget s := by
  cases Step.of_step h with
  | lnext hr h => cases h <;> simp [budget, DState.pot, *] <;> omega
  | work => exact absurd rfl hl
  | done hd =>
    simp only [budget, hd, DState.pot]
    split <;> split <;> simp <;> omega
  | _ => simp [budget, DState.pot, *] <;> omega

/-- The pinned order (Start before Notify) is not accepted, and it races: there is an
    interleaving — `Done()` and the delivery of its signal before `signal.Notify` — in which
    `Launch` returns an error while the daemon is running, orphaned. -/
theorem pinned_order_races :
    ¬ GoodOrder pinnedOrder
    ∧ ∃ tr s, run tr (init pinnedOrder) = some s ∧ Label.done ∈ tr
        ∧ s.result = some .err ∧ s.lstatus = .killed ∧ s.dstate = .ran ∧ s.dparent = .init :=
  ⟨by decide, [.lnext, .done, .deliver, .ret], _, rfl, by decide, by decide, by decide, by decide,
    by decide⟩

/-- with the pause hook after `cmd.Start()` the pinned order loses EVERY time the harness waits
    for `Done()` before releasing: no complete run of that schedule lets Launch succeed -/
theorem pinned_order_paused_fails :
    ∃ s, run [.lnext, .done, .deliver, .release, .ret] (init (withPause pinnedOrder)) = some s
      ∧ s.result = some .err ∧ s.dstate = .ran :=
  ⟨_, rfl, by decide, by decide⟩

/-! ### non-vacuity -/

def exOrder : List LStep := [.notify, .start, .printPid, .spawnWaiter, .select]

example : GoodOrder exOrder := by decide
example : GoodOrder (withPause exOrder) := by decide

/-- a complete interleaving with a fast daemon: Done() and the delivery of its signal happen
    before the launcher has even printed the pid -/
def exTrace : List Label :=
  [.lnext, .lnext, .work, .done, .deliver, .release, .lnext, .lnext, .lnext, .lexit, .work, .ret]

example : ∃ s, run exTrace (init exOrder) = some s ∧ Label.done ∈ exTrace ∧ Maximal s := by
  refine ⟨_, rfl, by decide, ?_⟩
  intro l hl
  cases l <;> first | rfl | exact absurd rfl hl

/-- the daemon dies before Done(): Launch reports the failure -/
example : ∃ s, run [.lnext, .lnext, .lnext, .lnext, .crash, .waiter, .lnext, .lexit, .ret]
    (init exOrder) = some s ∧ s.result = some .err ∧ s.dstate = .crashed := ⟨_, rfl, rfl, rfl⟩

end Glb.C20
