/-
  C06 — TaskLane: every accepted task is started exactly once (safety part).
  Model: `Glb.Model.TaskLane`; invariant: `Glb.Proofs.TaskLaneSafety` (`WFS`).
  All theorems hold for `cfg L Q` with ARBITRARY lane count `L` and queue capacity `Q` and quantify over
  all reachable states = all interleavings (cancellation, timeouts and panicking tasks included).
  (The liveness half `C06_eventually_started` is proved with the progress theorems, not here.)
-/
import Glb.Proofs.TaskLaneSafety
import Glb.Proofs.TaskLaneDemo

namespace Glb.TaskLane

variable (L Q : Nat)

/-- every pending or started task was accepted, and none appears twice among them -/
theorem C06_exactly_once (s : St) (h : Reachable (cfg L Q) s) :
    (s.pending (cfg L Q) ++ s.started).Nodup ∧
    ∀ t, t ∈ s.pending (cfg L Q) ++ s.started → t ∈ s.accepted := by
  have w := wfs_of_reachable h
  constructor
  · rw [List.nodup_iff_count]
    intro t
    have h1 := w.count_le t
    have h2 := w.accepted_count_le t
    omega
  · intro t ht
    have h1 := w.count_le t
    have h2 := List.count_pos_iff.2 ht
    exact List.count_pos_iff.1 (by omega)

/-- no task is ever started twice — cancelled or not -/
theorem C06_started_nodup (s : St) (h : Reachable (cfg L Q) s) : s.started.Nodup :=
  (List.nodup_append.1 (C06_exactly_once L Q s h).1).2.1

/-- while the context is live no accepted task is lost -/
theorem C06_no_loss (s : St) (h : Reachable (cfg L Q) s) (hc : s.cancelled = false) :
    ∀ t, t ∈ s.accepted → t ∈ s.pending (cfg L Q) ++ s.started := by
  have w := wfs_of_reachable h
  intro t ht
  have h1 := w.count_eq hc t
  have h2 := List.count_pos_iff.2 ht
  exact List.count_pos_iff.1 (by omega)

/-- PushTask returned nil ⇒ the task was accepted; returned an error ⇒ it was not, and never starts -/
theorem C06_results (s : St) (h : Reachable (cfg L Q) s) (t : Tid) (r : PushResult)
    (hr : (t, r) ∈ s.results) :
    (r = .nil → t ∈ s.accepted) ∧ (r ≠ .nil → t ∉ s.accepted ∧ t ∉ s.started) := by
  have w := wfs_of_reachable h
  obtain ⟨k, -, -, -, hiff⟩ := w.prod.res t r hr
  refine ⟨hiff.1, fun hne => ?_⟩
  have hna : t ∉ s.accepted := fun ha => hne (hiff.2 ha)
  refine ⟨hna, fun hs => hna ?_⟩
  exact (C06_exactly_once L Q s h).2 t (List.mem_append_right _ hs)

/-! ### Non-vacuity: reachable states of `cfg 2 1` built from explicit `Step`s (`Glb.Proofs.TaskLaneDemo`)
in which a task is pending (in each of the three places), started, accepted, rejected. -/

open Demo

/-- live state, task 7 accepted and pending in `buf[1]` -/
example : Reachable (cfg 2 1) d3 ∧ d3.cancelled = false ∧ d3.accepted = [7] ∧
    d3.pending (cfg 2 1) = [7] ∧ d3.buf 1 = [7] ∧ d3.started = [] := ⟨reach3, by decide⟩

/-- … pending in the hand of queue goroutine 1 (buffer empty again) -/
example : Reachable (cfg 2 1) d6 ∧ d6.cancelled = false ∧ d6.pending (cfg 2 1) = [7] ∧ d6.buf 1 = [] :=
  ⟨reach6, by decide⟩

/-- … pending in the hand of worker 1, which has not yet called `Start()` -/
example : Reachable (cfg 2 1) d10 ∧ d10.pending (cfg 2 1) = [7] ∧ (d10.qs 1).pc = 5 ∧ (d10.ws 1).pc = 3 :=
  ⟨reach10, by decide⟩

/-- … started (and running); `PushTask` has returned nil -/
example : Reachable (cfg 2 1) d12 ∧ d12.started = [7] ∧ d12.pending (cfg 2 1) = [] ∧ d12.accepted = [7] ∧
    (7, PushResult.nil) ∈ d12.results := ⟨reach12, by decide⟩

/-- the hypotheses of `C06_no_loss` and both branches of `C06_results` are satisfiable -/
example : 7 ∈ d10.pending (cfg 2 1) ++ d10.started :=
  C06_no_loss 2 1 d10 reach10 (by decide) 7 (by decide)

example : 7 ∈ d12.accepted := (C06_results 2 1 d12 reach12 7 .nil (by decide)).1 rfl

/-- a `PushTask` that timed out: result recorded, nothing accepted -/
example : Reachable (cfg 2 1) e4 ∧ (9, PushResult.timeout) ∈ e4.results ∧ e4.accepted = [] :=
  ⟨ereach4, by decide⟩

example : 9 ∉ e4.accepted ∧ 9 ∉ e4.started :=
  (C06_results 2 1 e4 ereach4 9 .timeout (by decide)).2 (by decide)

end Glb.TaskLane
