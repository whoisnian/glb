/-
  C06 (liveness part) — every accepted task is eventually started; termination measure of
  DESIGN A.2.  The safety part (`C06_started_nodup`, `C06_exactly_once`, `C06_no_loss`, `C06_results`) is in Props/C06;
  `C06_no_loss` is used here.
  All statements are about `cfg L Q` for arbitrary `L`, `Q`.
  Helper lemmas: `Glb/Proofs/TaskLaneProgress.lean`; witnesses: `Glb/Proofs/TaskLaneTraces.lean`.
-/
import Glb.Proofs.TaskLaneProgress
import Glb.Proofs.TaskLaneTraces
import Glb.Props.C06

namespace Glb.TaskLane

variable (L Q : Nat)

/-- liveness core: live context, nothing more the lane can do by itself, no task running ⇒ every
    accepted task has been started (fairness of the scheduler is the only assumption) -/
theorem C06_eventually_started (s : St) (h : Reachable (cfg L Q) s) (hc : s.cancelled = false)
    (hq : Quiescent (cfg L Q) s) (hr : ∀ i, i < L → ¬ s.running i) :
    ∀ t, t ∈ s.accepted → t ∈ s.started := by
  have hp : s.pending (cfg L Q) = [] := by
    apply pending_nil_of_idle
    cases L with
    | zero => intro i hi; omega
    | succ n => exact quiescent_idle hq h.inv hc (Nat.succ_pos n) (hr 0 (Nat.succ_pos n))
  intro t ht
  simpa [hp] using C06_no_loss L Q s h hc t ht

/-- termination measure (DESIGN A.2): every internal step — anything the lane does by itself:
    not a cancel, not a new push, not a PushTask timeout firing, not a task returning — strictly
    decreases the ranking function `mu` (sum of per-pc ranks of all producers, queue goroutines
    and workers plus 8 per buffered task); cancelled or not, from ANY state -/
theorem C06_internal_steps_terminate (s : St) (l : Label) (s' : St) (hs : Step (cfg L Q) s l s')
    (hi : internal l = true) : mu L Q s' < mu L Q s :=
  mu_xstep hs.toX hi

/-- hence a run of `n` internal steps from `s` has `n ≤ mu L Q s` … -/
theorem C06_internal_runs_bounded (s s' : St) (n : Nat) (hr : IRun (cfg L Q) s n s') :
    n + mu L Q s' ≤ mu L Q s :=
  hr.mu_bound

/-- … no execution consists, from some point on, of internal steps only (with finitely many
    environment events every execution is finite) … -/
theorem C06_no_infinite_internal_run (f : Nat → St) (lab : Nat → Label) (N : Nat)
    (hs : ∀ n, Step (cfg L Q) (f n) (lab n) (f (n + 1))) :
    ¬ ∀ n, N ≤ n → internal (lab n) = true :=
  fun hi => no_infinite_internal f lab N hs hi

/-- … and from every state the lane, left alone, reaches a quiescent state -/
theorem C06_reaches_quiescent (s : St) : ∃ n s', IRun (cfg L Q) s n s' ∧ Quiescent (cfg L Q) s' :=
  exists_quiescent s

/-! ### Non-vacuity -/

/-- the hypotheses of `C06_eventually_started` are satisfiable with a non-empty `accepted`:
    `cfg 1 1`, task 7 pushed, accepted, run and returned, everything parked again -/
example : Reachable (cfg 1 1) Trace.a18 ∧ Trace.a18.cancelled = false ∧
    Quiescent (cfg 1 1) Trace.a18 ∧ (∀ i, i < 1 → ¬ Trace.a18.running i) ∧
    Trace.a18.accepted = [7] :=
  ⟨Trace.reachA, rfl, Trace.quiescentA, lt_one (fun h => absurd h.1 (by decide)), rfl⟩

/-- the hypothesis `Quiescent` is not vacuous the other way either: while the task is pending
    (`Trace.s10`: held by the queue goroutine at q3, worker parked at w2) the state is not
    quiescent, and `init` is not quiescent -/
example : ¬ Quiescent (cfg 1 0) init := by
  intro hq
  have hs : Step (cfg 1 0) init .tau _ := Step.dflt init (.w 0) [(.done, 4)] 1 Nat.zero_lt_one rfl rfl
    (none_ready_cons (not_ready_done rfl) none_ready_nil)
  exact absurd (hq _ _ hs) (by decide)

/-- `C06_internal_steps_terminate` has instances: an internal step of `init`, measure 8 → 7 -/
example : ∃ s', Step (cfg 1 1) init .tau s' ∧ mu 1 1 init = 8 ∧ mu 1 1 s' = 7 :=
  ⟨_, Step.dflt init (.w 0) [(.done, 4)] 1 Nat.zero_lt_one rfl rfl
    (none_ready_cons (not_ready_done rfl) none_ready_nil), by decide, by decide⟩

end Glb.TaskLane
