/-
  C14 — TaskLane: a panicking task is contained (only `lastPanic` differs), and `Status().PendingTask`
  is bounded always and exact at rest.
  Model: `Glb.Model.TaskLane`; invariant: `Glb.Proofs.TaskLaneSafety` (`WFS`).  Arbitrary `L`, `Q`.
-/
import Glb.Proofs.TaskLaneSafety
import Glb.Proofs.TaskLaneDemo

namespace Glb.TaskLane

variable (L Q : Nat)

/-- the successor of a `finish` step in which the task panicked with `v` is the successor of the
    normal return except for `lastPanic` (and its ghost history `panics`): a panic changes nothing
    else — no goroutine is lost, no task is dropped, the worker continues at the same pc -/
theorem C14_panic_contained (s : St) (i n v : Nat) :
    ({ s with ws := upd s.ws i (goto (s.ws i) n), finished := s.finished ++ [(s.ws i).held],
              lastPanic := match some v with | some x => some x | none => s.lastPanic,
              panics := match some v with | some x => s.panics ++ [x] | none => s.panics } : St) =
    { ({ s with ws := upd s.ws i (goto (s.ws i) n), finished := s.finished ++ [(s.ws i).held],
                lastPanic := match (none : Option Nat) with | some x => some x | none => s.lastPanic,
                panics := match (none : Option Nat) with | some x => s.panics ++ [x] | none => s.panics } : St)
      with lastPanic := some v, panics := s.panics ++ [v] } := rfl

/-- step-level form, for an arbitrary configuration: wherever worker `i` can return normally from task
    `t` it can also panic with any `v` and vice versa, and the two successors differ only in
    `lastPanic`/`panics` -/
theorem C14_panic_contained_step (c : Cfg) (s : St) (i : Nat) (t : Tid) (v : Nat) :
    ((∃ s₁, Step c s (.finish i t none) s₁) ↔ (∃ s₂, Step c s (.finish i t (some v)) s₂)) ∧
    ∀ s₁ s₂, Step c s (.finish i t none) s₁ → Step c s (.finish i t (some v)) s₂ →
      s₂ = { s₁ with lastPanic := some v, panics := s.panics ++ [v] } ∧ s₁.panics = s.panics ∧
        s₁.lastPanic = s.lastPanic := by
  refine ⟨⟨?_, ?_⟩, ?_⟩
  · rintro ⟨_, h⟩
    obtain ⟨n, hi, hp, hin, rfl, -⟩ := h.finish_inv rfl
    exact ⟨_, Step.finish s i n (some v) hi hp hin⟩
  · rintro ⟨_, h⟩
    obtain ⟨n, hi, hp, hin, rfl, -⟩ := h.finish_inv rfl
    exact ⟨_, Step.finish s i n none hi hp hin⟩
  · intro s₁ s₂ h₁ h₂
    obtain ⟨n, -, -, hin, -, rfl⟩ := h₁.finish_inv rfl
    obtain ⟨n', -, -, hin', -, rfl⟩ := h₂.finish_inv rfl
    have : n' = n := by
      rw [hin] at hin'; injection hin' with h; injection h with _ h; exact h.symm
    subst this
    exact ⟨rfl, rfl, rfl⟩

/-- trace-level form, for an arbitrary configuration: forget `lastPanic` (and its ghost history) in any
    reachable state and you get a state reachable by a run in which NO task panics (the same schedule
    with every panicking `Start()` replaced by a normal return).  So panics influence nothing but
    `lastPanic`: queues, workers, counters, `started`/`finished`/`accepted`/`results` evolve identically. -/
theorem C14_panic_contained_trace (c : Cfg) (s : St) (h : Reachable c s) :
    ReachableNoPanic c (erasePanics s) := by
  induction h with
  | init => exact .init
  | step s l s' _ hs ih =>
    obtain ⟨l', hs', hl'⟩ := hs.erasePanics
    exact .step _ l' _ ih hs' hl'

/-- `lastPanic` is one of the panic values seen — the most recent one -/
theorem C14_lastPanic (s : St) (h : Reachable (cfg L Q) s) :
    (∀ v, s.lastPanic = some v → v ∈ s.panics) ∧ (s.panics ≠ [] → s.lastPanic = s.panics.getLast?) := by
  have w := wfs_of_reachable h
  refine ⟨fun v hv => ?_, fun _ => w.basic.panic⟩
  rw [w.basic.panic, List.getLast?_eq_some_iff] at hv
  obtain ⟨ys, hys⟩ := hv
  simp [hys]

/-- buffer lengths and the counter are bounded in every reachable state -/
theorem C14_pending_bounds (s : St) (h : Reachable (cfg L Q) s) :
    (∀ i, i < L → (s.buf i).length ≤ Q) ∧ s.cnt ≤ L := by
  have w := wfs_of_reachable h
  exact ⟨fun i _ => w.basic.buf i, w.cnt_le⟩

/-- hence any non-atomic sequence of reads (`Status()` reads the buffers and the counter one by one,
    each possibly in another state) adds up to at most L·(Q+1) -/
theorem C14_status_bound (ss : Nat → St) (s' : St) (h : ∀ i, Reachable (cfg L Q) (ss i))
    (h' : Reachable (cfg L Q) s') :
    sumTo L (fun i => ((ss i).buf i).length) + s'.cnt ≤ L * (Q + 1) := by
  have h1 := sumTo_le_mul L (fun i => ((ss i).buf i).length) Q
    (fun i hi => (C14_pending_bounds L Q (ss i) (h i)).1 i hi)
  have h2 := (C14_pending_bounds L Q s' h').2
  rw [Nat.mul_succ]; omega

/-- `C14_pending_exact_at_rest` (below) under the weaker syntactic notion of rest: no queue goroutine between take and
    increment or between hand-over and decrement, no worker between receive and Start() -/
theorem C14_pending_exact_at_rest' (s : St) (h : Reachable (cfg L Q) s) (hc : s.cancelled = false)
    (hrest : ∀ i, i < L → (s.qs i).pc ≠ 1 ∧ (s.qs i).pc ≠ 5 ∧ ¬ ((s.ws i).pc = 3 ∧ (s.ws i).parked = false)) :
    s.statusPending (cfg L Q) = (s.pending (cfg L Q)).length ∧
    (s.pending (cfg L Q)).length + s.started.length = s.accepted.length := by
  have w := wfs_of_reachable h
  constructor
  · have hq : sumTo L (fun i => (qHolding (s.qs i)).length) = s.cnt := by
      rw [w.basic.cnt.eq hc]
      apply sumTo_congr
      intro i hi
      obtain ⟨h1, h5, -⟩ := hrest i hi
      simp only [qHolding, inFl]
      split <;> split <;> simp <;> omega
    have hw : sumTo L (fun i => (wHolding (s.ws i)).length) = 0 := by
      rw [← sumTo_zero L]
      apply sumTo_congr
      intro i hi
      obtain ⟨-, -, h3⟩ := hrest i hi
      simp only [wHolding, if_neg h3, List.length_nil]
    simp only [St.statusPending, St.pending, pendingOf, List.length_append, length_catTo, cfg, hq, hw]
    omega
  · rw [← List.length_append]
    exact (List.perm_iff_count.2 (w.count_eq hc)).length_eq

/-- at rest (no internal step enabled) the reported number is exactly the number of
    accepted-but-not-started tasks -/
theorem C14_pending_exact_at_rest (s : St) (h : Reachable (cfg L Q) s) (hc : s.cancelled = false)
    (hq : Quiescent (cfg L Q) s) :
    s.statusPending (cfg L Q) = (s.pending (cfg L Q)).length ∧
    (s.pending (cfg L Q)).length + s.started.length = s.accepted.length := by
  apply C14_pending_exact_at_rest' L Q s h hc
  intro i hi
  refine ⟨fun h1 => ?_, fun h5 => ?_, fun ⟨h3, hp⟩ => ?_⟩
  · exact hq.elim ⟨_, _, Step.incCnt s (.q i) 2 hi (q_at h1), rfl⟩
  · exact hq.elim ⟨_, _, Step.decCnt s (.q i) 0 hi (q_at h5), rfl⟩
  · exact hq.elim ⟨_, _, Step.start s i 0 hi hp (w_at h3), rfl⟩

/-! ### Non-vacuity: reachable states of `cfg 2 1` built from explicit `Step`s (`Glb.Proofs.TaskLaneDemo`) -/

open Demo

/-- a task that panicked with 42: `lastPanic` set, everything else as after a normal return -/
example : Reachable (cfg 2 1) d13 ∧ d13.lastPanic = some 42 ∧ d13.panics = [42] ∧ d13.finished = [7] ∧
    (d13.ws 1).pc = 0 := ⟨reach13, by decide⟩

example : (42 : Nat) ∈ d13.panics := (C14_lastPanic 2 1 d13 reach13).1 42 (by decide)

/-- the panic-free twin of `d13`: same state except `lastPanic`, reachable without any panic -/
example : ReachableNoPanic (cfg 2 1) (erasePanics d13) ∧ (erasePanics d13).finished = [7] ∧
    (erasePanics d13).lastPanic = none ∧ d13.lastPanic = some 42 :=
  ⟨C14_panic_contained_trace _ _ reach13, by decide⟩

/-- both `finish` steps are enabled in `d12` (the instance used above is the panicking one) -/
example : (∃ s₁, Step (cfg 2 1) d12 (.finish 1 7 none) s₁) ∧ (∃ s₂, Step (cfg 2 1) d12 (.finish 1 7 (some 42)) s₂) :=
  ⟨(C14_panic_contained_step (cfg 2 1) d12 1 7 42).1.2 ⟨_, step13⟩, ⟨_, step13⟩⟩

/-- states at rest with one pending task: in the buffer (`d3`), in the queue goroutine's hand after the
    increment (`d6`); `Status()` reports exactly 1 -/
example : Reachable (cfg 2 1) d3 ∧ d3.cancelled = false ∧ d3.statusPending (cfg 2 1) = 1 ∧
    d3.pending (cfg 2 1) = [7] := ⟨reach3, by decide⟩

example : d6.statusPending (cfg 2 1) = (d6.pending (cfg 2 1)).length ∧
    (d6.pending (cfg 2 1)).length + d6.started.length = d6.accepted.length :=
  C14_pending_exact_at_rest' 2 1 d6 reach6 (by decide) (by decide)

example : d6.statusPending (cfg 2 1) = 1 ∧ d6.buf 1 = [] ∧ d6.cnt = 1 := by decide

/-- the rest hypothesis is necessary: between take and `cnt++` (`d4`) the pending task is invisible to
    `Status()`, and between hand-over and `cnt--` (`d11`, task already started) it is still counted -/
example : Reachable (cfg 2 1) d4 ∧ d4.cancelled = false ∧ d4.statusPending (cfg 2 1) = 0 ∧
    d4.pending (cfg 2 1) = [7] := ⟨reach4, by decide⟩

example : Reachable (cfg 2 1) d11 ∧ d11.cancelled = false ∧ d11.statusPending (cfg 2 1) = 1 ∧
    d11.pending (cfg 2 1) = [] := ⟨reach11, by decide⟩

/-- the hypotheses of `C14_pending_exact_at_rest` are jointly satisfiable: the idle state of `cfg 1 1`
    (worker and queue goroutine parked) is reachable, live and quiescent -/
example : Reachable (cfg 1 1) i4 ∧ i4.cancelled = false ∧ Quiescent (cfg 1 1) i4 :=
  ⟨ireach4, by decide, i4_quiescent⟩

end Glb.TaskLane
