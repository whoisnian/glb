/-
  C07 — cancellation: a PushTask that begins after cancel is refused, every blocked goroutine is
  released, `Wait` returns once running tasks have returned, nothing starts after `Wait`.
  All statements are about `cfg L Q` for arbitrary `L`, `Q` and quantify over all reachable
  states (= all interleavings) of the model `Glb.Model.TaskLane`.
  Helper lemmas: `Glb/Proofs/TaskLaneProgress.lean`; witnesses: `Glb/Proofs/TaskLaneTraces.lean`.
-/
import Glb.Proofs.TaskLaneProgress
import Glb.Proofs.TaskLaneTraces

namespace Glb.TaskLane

variable (L Q : Nat)

/-- a PushTask call that begins after cancellation returns the context error and enqueues nothing -/
theorem C07_push_after_cancel (s s' : St) (h : Reachable (cfg L Q) s) (hc : s.cancelled = true)
    (k : Nat) (hk : k < s.np) (h0 : (s.ps k).pc = 0) (hs : Steps (cfg L Q) s s') :
    (s.ps k).held ∉ s'.accepted ∧ ∀ r, ((s.ps k).held, r) ∈ s'.results → r = .ctxErr :=
  have hp := PAC.steps h hc hk h0 hs
  ⟨hp.acc, hp.res⟩

/-- after cancellation every goroutine of the lane that has not exited and is not inside a task,
    and every blocked producer, has an enabled step of its own -/
theorem C07_cancel_progress (s : St) (h : Reachable (cfg L Q) s) (hc : s.cancelled = true) :
    (∀ i, i < L → (s.qs i).pc ≠ 6 → ∃ l s', Step (cfg L Q) s l s' ∧ internal l = true) ∧
    (∀ i, i < L → (s.ws i).pc ≠ 4 → ¬ s.running i → ∃ l s', Step (cfg L Q) s l s' ∧ internal l = true) ∧
    (∀ k, k < s.np → (s.ps k).pc ≠ 5 → ∃ l s', Step (cfg L Q) s l s' ∧ internal l = true) := by
  -- unparked any way; parked it sits at a select with a `<-ctx.Done()` case
  have hw := h.inv
  refine ⟨fun i hi hne => ?_, fun i hi hne hnr => ?_, fun k hk hne => ?_⟩
  · obtain ⟨hle, hpk, -⟩ := hw.q i
    cases hu : (s.qs i).parked with
    | false => exact unparked_q hi hu (by omega)
    | true =>
      exact internal_of_tau (done_edge_enabled (g := .q i) hi hc (b := 6) ⟨(hpk hu).imp_right .inr, rfl⟩)
  · obtain ⟨hle, hpk, -⟩ := hw.w i
    cases hu : (s.ws i).parked with
    | false => exact unparked_w hi hu (by omega)
    | true =>
      rcases hpk hu with h | h
      · exact internal_of_tau (done_edge_enabled (g := .w i) hi hc (b := 4) ⟨.inr h, rfl⟩)
      · exact (hnr ⟨h, hu⟩).elim
  · obtain ⟨hle, hpk⟩ := hw.p k
    cases hu : (s.ps k).parked with
    | false => exact unparked_p hk hu (by omega)
    | true => exact internal_of_tau (done_edge_enabled (g := .p k) hk hc (b := 2) ⟨.inr (hpk hu), rfl⟩)

/-- Wait returns: cancelled, nothing enabled, every started task has returned ⇒ all 2L goroutines exited,
    whatever is still queued or held -/
theorem C07_wait_returns (s : St) (h : Reachable (cfg L Q) s) (hc : s.cancelled = true)
    (hq : Quiescent (cfg L Q) s) (hr : ∀ i, i < L → ¬ s.running i) : allExited L s := by
  have hw := h.inv
  intro i hi
  constructor
  · rcases quiescent_q hq hw hi with h|h|h
    · simp [hc] at h
    · simp [hc] at h
    · exact h
  · rcases quiescent_w hq hw hi with h|h|h
    · simp [hc] at h
    · exact (hr i hi h).elim
    · exact h

set_option linter.unusedVariables false in
/-- after Wait has returned no task is ever started (`h` is not even needed) -/
theorem C07_nothing_after_wait (s s' : St) (h : Reachable (cfg L Q) s) (he : allExited L s)
    (hs : Steps (cfg L Q) s s') : s'.started = s.started :=
  (allExited_steps he hs).2

/-- shutdown terminates (DESIGN A.2, same measure `mu` as C06): from a reachable cancelled state
    every run of internal steps has at most `mu L Q s` steps and stays cancelled; wherever such a
    run gets stuck (quiescent) with no task still running, all `2L` goroutines have exited; and
    some run does get stuck. -/
theorem C07_shutdown_terminates (s : St) (h : Reachable (cfg L Q) s) (hc : s.cancelled = true) :
    (∀ n s', IRun (cfg L Q) s n s' →
        n + mu L Q s' ≤ mu L Q s ∧ s'.cancelled = true ∧
        (Quiescent (cfg L Q) s' → (∀ i, i < L → ¬ s'.running i) → allExited L s')) ∧
    ∃ n s', IRun (cfg L Q) s n s' ∧ Quiescent (cfg L Q) s' :=
  ⟨fun _ s' hr => ⟨hr.mu_bound, hr.cancelled hc,
      C07_wait_returns L Q s' (hr.reachable h) (hr.cancelled hc)⟩,
   exists_quiescent s⟩

/-! ### Non-vacuity -/

/-- the hypotheses of `C07_wait_returns` / `C07_cancel_progress` / `C07_shutdown_terminates`:
    a reachable, cancelled, quiescent state without running task (`cfg 1 0` after cancel) … -/
example : Reachable (cfg 1 0) Trace.c3 ∧ Trace.c3.cancelled = true ∧ Quiescent (cfg 1 0) Trace.c3 ∧
    ∀ i, i < 1 → ¬ Trace.c3.running i :=
  ⟨Trace.reachC3, rfl, Trace.quiescentC3, lt_one (fun h => absurd h.1 (by decide))⟩

/-- … in which indeed everybody has exited (hypothesis of `C07_nothing_after_wait`) -/
example : allExited 1 Trace.c3 := C07_wait_returns 1 0 _ Trace.reachC3 rfl Trace.quiescentC3
    (lt_one (fun h => absurd h.1 (by decide)))

/-- the hypotheses of `C07_push_after_cancel`: a PushTask that begins in a cancelled state -/
example : Reachable (cfg 1 0) Trace.c4 ∧ Trace.c4.cancelled = true ∧ 0 < Trace.c4.np ∧
    (Trace.c4.ps 0).pc = 0 := ⟨Trace.reachC4, rfl, Nat.zero_lt_one, rfl⟩

/-- and a state right after cancel where progress is still to be made: `init` + cancel is not quiescent -/
example : ¬ Quiescent (cfg 1 0) Trace.c1 := by
  intro hq
  have h1 : Reachable (cfg 1 0) Trace.c1 := .step _ _ _ .init (Step.cancel _ rfl)
  obtain ⟨l, s', hs, hi⟩ := (C07_cancel_progress 1 0 _ h1 rfl).1 0 Nat.zero_lt_one (by decide)
  have := hq l s' hs
  simp [hi] at this

end Glb.TaskLane
