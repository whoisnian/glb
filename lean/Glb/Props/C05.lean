/-
  C05 — Requests are isolated: pooled per-request state never leaks between requests.

  Model: `Glb/Model/Store.lean` (Store with Go slices, the pool as a list from which `Get` may take
  ANY store or make a new one and which may forget stores at any time, `maxParams`, the request
  counter, `serve` = Get / set id / findRoute / relay + handler observations / handler effect /
  reset / Put; registrations between requests).  Lemmas: `Glb/Proofs/Store.lean`.
  Besides the property theorems only what their statements need (`observedIds`, `begunIds`), the facts
  about `regRun` that `request_isolated_concurrent` uses and the example history live here.
-/
import Glb.Proofs.Store
import Glb.Proofs.StoreConc

namespace Glb.C05
open Glb Glb.Router Glb.Store

/-- **The pool invariant**: the prefix has 9 bytes, the trie is one built by registrations
    (accepted or refused), and every pooled Store is at rest — `K = nil`, `len V = 0`,
    `Status = 0`, `I = nil`, `id` = the 9-byte prefix within its capacity. -/
abbrev PoolInv (mux : MuxSt) : Prop := MuxInv mux

theorem poolInv_fresh (pfx : Bytes) (h : pfx.length = 9) : PoolInv (fresh pfx) := fresh_inv pfx h

/-- every request keeps the invariant — matched or unmatched, whatever the handler writes, whether
    it panics (Store not returned) or not, whatever Store the pool handed out — and neither
    `ServeHTTP` nor a probing handler panics on its own account -/
theorem poolInv_request (grow : Nat → Nat) (render : Nat → Bytes) (mux : MuxSt) (h : PoolInv mux)
    (req : Req) (names : List Bytes) (beh : Behaviour) (choice : Option Nat) :
    PoolInv (serve grow render mux req names beh choice).1 ∧
    (∃ o, (serve grow render mux req names beh choice).2 = .ok [o, o]) := by
  obtain ⟨o, _, hs, hinv, _⟩ := serve_spec grow render h req names beh choice
  exact ⟨hinv, o, hs⟩

/-- every registration — accepted or refused — keeps the invariant, and `parseRoute` does not panic -/
theorem poolInv_registration (mux : MuxSt) (h : PoolInv mux) (p m : Bytes) :
    ∃ mux' res, handle mux p m = .ok (mux', res) ∧ PoolInv mux' := by
  obtain ⟨mux', res, hh, hinv, _⟩ := handle_inv h p m
  exact ⟨mux', res, hh, hinv⟩

/-- hence the invariant holds in every reachable state: any interleaving of registrations,
    requests (any pool choice) and stores forgotten by the pool -/
theorem poolInv_reachable (grow : Nat → Nat) (render : Nat → Bytes) (pfx : Bytes) (hp : pfx.length = 9)
    (ops : List Op) : PoolInv (run grow render (fresh pfx) ops) :=
  (run_inv grow render ops (fresh_inv pfx hp)).1

/-- **Isolation.**  In every reachable state of a Mux (any history `ops` of registrations, requests
    — matched, unmatched, with handlers writing a status or panicking — and forgotten stores), for
    every choice the pool makes and every request: the relay handler and the selected handler both
    observe `.ok o` (no panic from `Params.Get`, from growing `V` or from reslicing) where `o` —
    selected route, every parameter lookup, `RouteParamAny`, the initial status (0) — is exactly
    what the same request observes on a FRESH Mux on which only the registrations of the history
    were made; the two differ in nothing but the counter part of the id. -/
theorem request_isolated (grow grow' : Nat → Nat) (render : Nat → Bytes) (pfx : Bytes) (hp : pfx.length = 9)
    (ops : List Op) (req : Req) (names : List Bytes) (beh : Behaviour) (choice : Option Nat) :
    ∃ o : Obs, o.status = 0 ∧
      (serve grow render (run grow render (fresh pfx) ops) req names beh choice).2 =
        .ok [{ o with id := pfx ++ render ((run grow render (fresh pfx) ops).counter + 1) },
             { o with id := pfx ++ render ((run grow render (fresh pfx) ops).counter + 1) }] ∧
      (serve grow' render (run grow' render (fresh pfx) (ops.filter Op.isHandle)) req names {} none).2 =
        .ok [{ o with id := pfx ++ render 1 }, { o with id := pfx ++ render 1 }] := by
  obtain ⟨hI, (hpfx : _ = pfx), _⟩ := run_inv grow render ops (fresh_inv pfx hp)
  obtain ⟨hI0, (hpfx0 : _ = pfx), hc0⟩ := run_inv grow' render (ops.filter Op.isHandle) (fresh_inv pfx hp)
  have hroot := (run_root grow grow' render ops (fresh_inv pfx hp) (fresh_inv pfx hp) rfl rfl).1
  obtain ⟨o1, ho, hs, _⟩ := serve_spec grow render hI req names beh choice
  obtain ⟨o0, ho0, hs0, _⟩ := serve_spec grow' render hI0 req names {} none
  rw [hpfx] at ho
  rw [hpfx0, hc0 fun _ h => (List.mem_filter.mp h).2, ← hroot] at ho0
  obtain ⟨o, hst, rfl, rfl⟩ := obsPure_congr hI.trie ho ho0
  exact ⟨o, hst, hs, hs0⟩

/-- the ids the handlers of the request operations of a history observe, in order -/
def observedIds (grow : Nat → Nat) (render : Nat → Bytes) : MuxSt → List Op → List Bytes
  | _, [] => []
  | mux, op :: ops =>
    let rest := observedIds grow render (step grow render mux op) ops
    match op with
    | .request req names beh choice =>
      match (serve grow render mux req names beh choice).2 with
      | .ok (o :: _) => o.id :: rest
      | _ => rest
    | _ => rest

/-- the request counter strictly increases with every request (also a panicking one) and is not
    touched by anything else -/
theorem counter_step (grow : Nat → Nat) (render : Nat → Bytes) (mux : MuxSt) (h : PoolInv mux) (op : Op) :
    (step grow render mux op).counter = mux.counter + (match op with
      | .request .. => 1
      | _ => 0) :=
  (step_inv grow render h op).2.2

/-- **Ids are unique.**  Given that the rendering of the counter is injective (the contract of
    `strconv.AppendUint(_, n, 36)`; `render36_injective` is a concrete instance), the ids observed
    by the requests of any history of one Mux are pairwise distinct.  (Within one request the id
    is constant: both observations of `request_isolated` carry the same id.) -/
theorem ids_unique (grow : Nat → Nat) (render : Nat → Bytes) (hinj : ∀ a b, render a = render b → a = b)
    (pfx : Bytes) (hp : pfx.length = 9) (ops : List Op) :
    (observedIds grow render (fresh pfx) ops).Nodup := by
  have gen : ∀ (ops : List Op) (mux : MuxSt), MuxInv mux →
      Later render mux.pfx mux.counter (observedIds grow render mux ops) := by
    intro ops
    induction ops with
    | nil => intro mux _; exact ⟨List.nodup_nil, nofun⟩
    | cons op ops ih =>
      intro mux h
      obtain ⟨hinv, hpfx, hc⟩ := step_inv grow render h op
      have hl := ih _ hinv
      rw [hpfx, hc] at hl
      cases op with
      | handle p m => exact hl
      | drop i => exact hl
      | request req names beh choice =>
        obtain ⟨o, ho, hs, _⟩ := serve_spec grow render h req names beh choice
        obtain ⟨ob, _, rfl, _⟩ := obsPure_congr h.trie ho ho
        show Later render mux.pfx mux.counter (match (serve grow render mux req names beh choice).2 with
          | .ok (o :: _) => o.id :: _
          | _ => _)
        rw [hs]
        exact hl.next hinj
  exact (gen ops (fresh pfx) (fresh_inv pfx hp)).1

/-- the concrete instance of the rendering contract: base 36, digits `0-9a-z` -/
theorem render36_injective : ∀ a b, render36 a = render36 b → a = b :=
  fun a b h => (render36_val a).symm.trans (h ▸ render36_val b)

/-! ## The concurrent case: interleaving semantics (`Glb/Model/StoreConc.lean`)

  Events `begin k req names choice` / `finish k beh` / `register p m` / `drop i`, any number of
  requests in flight at once; a history is any list of events (events that are not enabled do
  nothing).  `sequential_observation_is_begin` links the two models: a sequential `serve` observes
  exactly what `begin` observes in an interleaving state with the same trie, prefix and counter. -/

/-- the sequential model's request and the interleaving model's `begin` observe the same thing
    whenever trie, prefix and counter agree — whatever is pooled or in flight on either side -/
theorem sequential_observation_is_begin (grow grow' : Nat → Nat) (render : Nat → Bytes) (mux : MuxSt) (s : CState)
    (hm : PoolInv mux) (hs : CInv s) (hroot : mux.root = s.root) (hpfx : mux.pfx = s.pfx)
    (hc : mux.counter = s.counter) (k : Nat) (req : Req) (names : List Bytes) (beh : Behaviour)
    (choice choice' : Option Nat) :
    (serve grow render mux req names beh choice).2 = (beginReq grow' render s k req names choice').2 := by
  obtain ⟨o, ho, h1, _⟩ := serve_spec grow render hm req names beh choice
  obtain ⟨o', ho', h2, _⟩ := begin_spec grow' render hs k req names choice'
  rw [hroot, hpfx, hc, ho'] at ho
  cases ho
  rw [h1, h2]

/-- **Pool invariant and ownership, concurrently.**  In every reachable state of the interleaving
    semantics the pool invariant holds (every pooled Store is at rest), the request keys in flight
    are pairwise distinct, and the identities of all Stores known to the Mux — pooled ones followed
    by those in flight — are pairwise distinct: no Store is pooled twice, in flight twice, or both
    pooled and in flight. -/
theorem pool_inv_concurrent (grow : Nat → Nat) (render : Nat → Bytes) (pfx : Bytes) (hp : pfx.length = 9)
    (evs : List CEvent) :
    PoolInv (crun grow render (cfresh pfx) evs).toMux ∧
    ((crun grow render (cfresh pfx) evs).pool.map (·.1) ++ (crun grow render (cfresh pfx) evs).inflight.map (·.sid)).Nodup ∧
    ((crun grow render (cfresh pfx) evs).inflight.map (·.key)).Nodup := by
  obtain ⟨h, _⟩ := crun_inv grow render evs (cfresh_inv pfx hp)
  exact ⟨h.toMux, h.own, h.keys⟩

/-- the fresh Mux of `request_isolated_concurrent` is the sequential model's Mux after exactly the
    `Handle` calls made so far -/
theorem regRun_is_sequential (grow : Nat → Nat) (render : Nat → Bytes) (pfx : Bytes) (regs : List (Bytes × Bytes)) :
    run grow render (fresh pfx) (regs.map fun r => Op.handle r.1 r.2) = regRun pfx regs := by
  simp only [run, regRun, List.foldl_map]
  rfl

theorem regRun_inv (pfx : Bytes) (hp : pfx.length = 9) (regs : List (Bytes × Bytes)) :
    PoolInv (regRun pfx regs) ∧ (regRun pfx regs).counter = 0 ∧ (regRun pfx regs).pfx = pfx := by
  rw [← regRun_is_sequential id (fun _ => []) pfx regs]
  obtain ⟨h1, h2, h3⟩ := run_inv id (fun _ => []) (regs.map fun r => Op.handle r.1 r.2) (fresh_inv pfx hp)
  exact ⟨h1, h3 (List.forall_mem_map.mpr fun _ _ => rfl), h2⟩

/-- **Isolation, concurrently.**  In every reachable state of the interleaving semantics — any
    number of other requests in flight, whatever they matched, whatever their handlers will do —
    for every choice the pool makes and every request, `begin` fixes the observations of the relay
    and the handler to `.ok o` (no panic), where `o` is exactly what the same request observes on a
    fresh Mux on which only the registrations made so far were made (sequential model, `regRun`);
    the two differ in nothing but the counter part of the id. -/
theorem request_isolated_concurrent (grow grow' : Nat → Nat) (render : Nat → Bytes) (pfx : Bytes)
    (hp : pfx.length = 9) (evs : List CEvent) (k : Nat) (req : Req) (names : List Bytes) (choice : Option Nat) :
    ∃ o : Obs, o.status = 0 ∧
      (beginReq grow render (crun grow render (cfresh pfx) evs) k req names choice).2 =
        .ok [{ o with id := pfx ++ render ((crun grow render (cfresh pfx) evs).counter + 1) },
             { o with id := pfx ++ render ((crun grow render (cfresh pfx) evs).counter + 1) }] ∧
      (serve grow' render (regRun pfx (crun grow render (cfresh pfx) evs).regs) req names {} none).2 =
        .ok [{ o with id := pfx ++ render 1 }, { o with id := pfx ++ render 1 }] := by
  obtain ⟨hI, (hpfx : _ = pfx)⟩ := crun_inv grow render evs (cfresh_inv pfx hp)
  obtain ⟨hI0, hc0, hpfx0⟩ := regRun_inv pfx hp (crun grow render (cfresh pfx) evs).regs
  obtain ⟨o1, ho, hs, _⟩ := begin_spec grow render hI k req names choice
  obtain ⟨o0, ho0, hs0, _⟩ := serve_spec grow' render hI0 req names {} none
  have hroot := hI.regsRoot.1
  rw [hpfx] at ho hroot
  rw [hpfx0, hc0, ← hroot] at ho0
  obtain ⟨o, hst, rfl, rfl⟩ := obsPure_congr hI.trie ho ho0
  exact ⟨o, hst, hs, hs0⟩

/-- the ids observed by the requests begun in a history of the interleaving semantics, in order -/
def begunIds (grow : Nat → Nat) (render : Nat → Bytes) : CState → List CEvent → List Bytes
  | _, [] => []
  | s, e :: evs =>
    let rest := begunIds grow render (cstep grow render s e) evs
    match e with
    | .begin k req names choice =>
      if cenabled s e then
        match (beginReq grow render s k req names choice).2 with
        | .ok (o :: _) => o.id :: rest
        | _ => rest
      else rest
    | _ => rest

/-- **Ids are unique, concurrently.**  The ids of all requests begun so far in any interleaving
    (finished or still in flight) are pairwise distinct, given an injective counter rendering. -/
theorem ids_unique_concurrent (grow : Nat → Nat) (render : Nat → Bytes) (hinj : ∀ a b, render a = render b → a = b)
    (pfx : Bytes) (hp : pfx.length = 9) (evs : List CEvent) :
    (begunIds grow render (cfresh pfx) evs).Nodup := by
  have gen : ∀ (evs : List CEvent) (s : CState), CInv s →
      Later render s.pfx s.counter (begunIds grow render s evs) := by
    intro evs
    induction evs with
    | nil => intro s _; exact ⟨List.nodup_nil, nofun⟩
    | cons e evs ih =>
      intro s h
      obtain ⟨hinv, hpfx, hc⟩ := cstep_inv grow render h e
      have hl := ih _ hinv
      rw [hpfx, hc] at hl
      cases e with
      | finish k beh => exact hl
      | register p m => exact hl
      | drop i => exact hl
      | «begin» k req names choice =>
        obtain ⟨o, ho, hs, _⟩ := begin_spec grow render h k req names choice
        obtain ⟨ob, _, rfl, _⟩ := obsPure_congr h.trie ho ho
        show Later render s.pfx s.counter (if cenabled s (.begin k req names choice) then
          (match (beginReq grow render s k req names choice).2 with
            | .ok (o :: _) => o.id :: _
            | _ => _) else _)
        rw [hs]
        -- a `begin` that is not enabled hands out no id and leaves the counter alone
        revert hl
        cases cenabled s (.begin k req names choice) with
        | false => exact id
        | true => exact fun hl => hl.next hinj
  exact (gen evs (cfresh pfx) (cfresh_inv pfx hp)).1

deriving instance DecidableEq for Except

-- the rendering is `strconv.AppendUint(nil, n, 36)`: 0 → "0", 35 → "z", 36 → "10", 1295 → "zz"
example : render36 0 = [48] ∧ render36 35 = [122] ∧ render36 36 = [49, 48] ∧ render36 1295 = [122, 122] := by
  decide

/-- nine bytes like `FVHNU2LS-` -/
def exPfx : Bytes := [70, 86, 72, 78, 85, 50, 76, 83, 45]

example : exPfx.length = 9 := by decide

-- `ids_unique` and `request_isolated` with the concrete rendering and a concrete growth function
example (ops : List Op) : (observedIds (fun c => 2 * c) render36 (fresh exPfx) ops).Nodup :=
  ids_unique _ _ render36_injective exPfx (by decide) ops

/-- `/u/:a/:b`, served; then an unmatched request whose handler looks up `a` (the history of the
    pinned commit's failure): the no-route handler sees nothing of the earlier request -/
def exOps : List Op :=
  [.handle [47, 117, 47, 58, 97, 47, 58, 98] [71, 69, 84],
   .request ⟨[47, 117, 47, 49, 47, 50], [71, 69, 84]⟩ [[97], [98]] {} none]

example : (serve (fun c => 2 * c) render36 (run (fun c => 2 * c) render36 (fresh exPfx) exOps)
    ⟨[47, 110, 111, 112, 101], [71, 69, 84]⟩ [[97], [98]] {} (some 0)).2 =
    .ok [⟨.noRoute, [[], []], [], 0, exPfx ++ render36 2⟩, ⟨.noRoute, [[], []], [], 0, exPfx ++ render36 2⟩] := by
  decide

/-- two overlapping requests (and a third one reusing the Store the first one returned while the
    second is still in flight): `/u/:a/:b` registered; request 1 `GET /u/1/2` begins; request 2
    `GET /nope` begins; 1 finishes (status 404 written); request 3 is about to begin. -/
def exEvents : List CEvent :=
  [.register [47, 117, 47, 58, 97, 47, 58, 98] [71, 69, 84],
   .begin 1 ⟨[47, 117, 47, 49, 47, 50], [71, 69, 84]⟩ [[97], [98]] none,
   .begin 2 ⟨[47, 110, 111, 112, 101], [71, 69, 84]⟩ [[97], [98]] none,
   .finish 1 { writeStatus := some 404 }]

-- one Store is back in the pool, request 2 is still in flight, two ids have been handed out
example : ((crun (fun c => 2 * c) render36 (cfresh exPfx) exEvents).pool.length,
    (crun (fun c => 2 * c) render36 (cfresh exPfx) exEvents).inflight.map (·.key),
    (crun (fun c => 2 * c) render36 (cfresh exPfx) exEvents).counter) = (1, [2], 2) := by
  decide

-- request 3 takes the Store request 1 used (choice `some 0`) while request 2 is in flight: it sees
-- its own parameters, status 0 and the third id — nothing of request 1
example : (beginReq (fun c => 2 * c) render36 (crun (fun c => 2 * c) render36 (cfresh exPfx) exEvents) 3
    ⟨[47, 117, 47, 120, 47, 121], [71, 69, 84]⟩ [[97], [98]] (some 0)).2 =
    .ok [⟨.route 0, [[120], [121]], [], 0, exPfx ++ render36 3⟩, ⟨.route 0, [[120], [121]], [], 0, exPfx ++ render36 3⟩] := by
  decide

example (evs : List CEvent) : (begunIds (fun c => 2 * c) render36 (cfresh exPfx) evs).Nodup :=
  ids_unique_concurrent _ _ render36_injective exPfx (by decide) evs

end Glb.C05
