/-
  Glb.Go.LemmasTables — bounds-checked reads of the regenerated logger tables (`safeSet`, `hex`) and
  in-range slices, as the translated JSON and text string writers perform them.  Shared by
  Tie/TrJsonString (C01) and Tie/TrText (C13): it depends on the tables only, not on either
  translated function.
-/
import Glb.Go.Lemmas
import Glb.Model.JsonHandler
import Glb.Tie.Logger

namespace Glb.Go.Tables
open Glb Glb.Go Glb.JsonHandler

theorem idx_safeSet (c : UInt8) (hc : c < 128) : idx Generated.safeSet c = .ok (safe c) := by
  have hn : c.toNat < 128 := by simpa [UInt8.lt_iff_toNat_lt] using hc
  have hl := Tie.Logger.safeSet_length
  rw [idx_u8, idxI_nat, idx?_ok _ _ (by omega)]
  simp [safe, List.getElem?_eq_getElem (show c.toNat < Generated.safeSet.length by omega)]

theorem idxI_hex (n : Nat) (h : n < 16) : idxI Generated.hex (n : Int) = .ok (hexAt n) := by
  have hl := Tie.Logger.hex_length
  rw [idxI_nat, idx?_ok _ _ (by omega)]
  simp [hexAt, List.getElem?_eq_getElem (show n < Generated.hex.length by omega)]

theorem idx_hex_hi (c : UInt8) : idx Generated.hex (shr c 4) = .ok (hexAt (c.toNat / 16)) := by
  have : (c >>> 4).toNat = c.toNat / 16 := by
    simp [UInt8.toNat_shiftRight, Nat.shiftRight_eq_div_pow]
  rw [idx_u8, this]
  exact idxI_hex _ (by have := c.toNat_lt; omega)

theorem idx_hex_lo (c : UInt8) : idx Generated.hex (band c 15) = .ok (hexAt (c.toNat % 16)) := by
  have : (c &&& 15).toNat = c.toNat % 16 := by
    simp [UInt8.toNat_and]
    exact Nat.and_two_pow_sub_one_eq_mod c.toNat 4
  rw [idx_u8, this]
  exact idxI_hex _ (by omega)

theorem slice_ok (str : Bytes) (a b : Nat) (h1 : a ≤ b) (h2 : b ≤ str.length) :
    slice str (a : Int) (b : Int) = .ok ((str.drop a).take (b - a)) :=
  Glb.Go.slice_ok str a b h1 h2

theorem sliceFrom_ok (str : Bytes) (a : Nat) (h : a ≤ str.length) :
    sliceFrom str (a : Int) = .ok (str.drop a) :=
  Glb.Go.sliceFrom_ok str a h

end Glb.Go.Tables
