/-
  Glb.Go.Lemmas — what a tie proof needs to know about the translator's target language and nothing
  about any one translated function: `>>=` of `M`, bounds-checked `idx`/`slice`/`set` at indices that
  are natural numbers, `len` guards, `strings.IndexByte`; and the loop rules.  `loop_eq` (with `StepOK`)
  ties a loop to a model of its whole outcome, `loop_sim` (with `StepSim`) ties a loop to a
  specification up to a relation; both are instances of `loop_rule` (with `LoopStep`), the one induction
  over the fuel.  `loop_range` is the form of `loop_eq` for `for i < len(s)` (its model follows the suffix of
  `s`, and it has its own induction), `loop_search`/`loop_count` are the two commonest range loops, and
  `IdxInv`/`viaNat` serve index loops whose model counts in `Nat`.
-/
import Glb.Go.Prelude

namespace Glb.Go

/-- outcomes (values and panic payloads) can be compared by `decide` -/
instance (priority := low) instDecidableEqExcept {ε α} [DecidableEq ε] [DecidableEq α] : DecidableEq (Except ε α)
  | .ok a, .ok b => if h : a = b then isTrue (congrArg _ h) else isFalse (fun e => h (Except.ok.inj e))
  | .error a, .error b => if h : a = b then isTrue (congrArg _ h) else isFalse (fun e => h (Except.error.inj e))
  | .ok _, .error _ => isFalse nofun
  | .error _, .ok _ => isFalse nofun

@[simp] theorem loop_zero {σ ρ} (st : σ) (c : σ → M Bool) (b : σ → M (Ctl σ ρ)) (p : σ → M σ) :
    loop st 0 c b p = .error (.other "fuel") := rfl

theorem loop_succ {σ ρ} (st : σ) (n : Nat) (c : σ → M Bool) (b : σ → M (Ctl σ ρ)) (p : σ → M σ) :
    loop st (n + 1) c b p =
      match c st with
      | .error e => .error e
      | .ok false => .ok (.inl st)
      | .ok true =>
        match b st with
        | .error e => .error e
        | .ok (.brk s) => .ok (.inl s)
        | .ok (.ret r) => .ok (.inr r)
        | .ok (.next s) =>
          match p s with
          | .error e => .error e
          | .ok s' => loop s' n c b p := rfl

theorem loop_exit {σ ρ} (st : σ) (n : Nat) (c : σ → M Bool) (b : σ → M (Ctl σ ρ)) (p : σ → M σ)
    (h : c st = .ok false) : loop st (n + 1) c b p = .ok (.inl st) := by
  simp only [loop_succ, h]

theorem loop_step {σ ρ} (st s s' : σ) (n : Nat) (c : σ → M Bool) (b : σ → M (Ctl σ ρ)) (p : σ → M σ)
    (hc : c st = .ok true) (hb : b st = .ok (.next s)) (hp : p s = .ok s') :
    loop st (n + 1) c b p = loop s' n c b p := by
  simp only [loop_succ, hc, hb, hp]

theorem loop_ret {σ ρ} (st : σ) (r : ρ) (n : Nat) (c : σ → M Bool) (b : σ → M (Ctl σ ρ)) (p : σ → M σ)
    (hc : c st = .ok true) (hb : b st = .ok (.ret r)) :
    loop st (n + 1) c b p = .ok (.inr r) := by
  simp only [loop_succ, hc, hb]

theorem loop_brk {σ ρ} (st s : σ) (n : Nat) (c : σ → M Bool) (b : σ → M (Ctl σ ρ)) (p : σ → M σ)
    (hc : c st = .ok true) (hb : b st = .ok (.brk s)) :
    loop st (n + 1) c b p = .ok (.inl s) := by
  simp only [loop_succ, hc, hb]

-- A trap: being `rfl`, this rewrites `len s` in a proposition but not inside the `Decidable` instance
-- that goes with it, after which lemmas about `decide (↑r < ↑s.length)` do not match the goal;
-- `delta Glb.Go.len` rewrites both.
@[simp] theorem len_eq {α} (s : List α) : len s = (s.length : Int) := rfl

/-- the guard `len(s) > 0`, as the translator writes it, is the model's `s.length > 0` -/
theorem len_pos {α} (s : List α) : (decide (len s > 0) = true) = (s.length > 0) := by
  simp [len_eq]

theorem decide_int_le (a b : Nat) : decide ((a : Int) ≤ b) = decide (a ≤ b) := decide_eq_decide.mpr Int.ofNat_le

theorem decide_int_lt (a b : Nat) : decide ((a : Int) < b) = decide (a < b) := decide_eq_decide.mpr Int.ofNat_lt

theorem decide_int_sub_lt_two (a b : Nat) : decide ((a : Int) - b < 2) = decide (a - b < 2) :=
  decide_eq_decide.mpr (by omega)

@[simp] theorem idxI_nat {α} (s : List α) (n : Nat) : idxI s (n : Int) = Glb.idx? s n := by
  simp [idxI]

theorem idx_nat {α} (s : List α) (n : Nat) : idx s (n : Int) = Glb.idx? s n := by
  simp

theorem idxI_ok {α} (s : List α) (n : Nat) (h : n < s.length) : idxI s (n : Int) = .ok s[n] := by
  simp [idxI, Glb.idx?, h]

theorem idx_ok {α} (s : List α) (n : Nat) (h : n < s.length) : idx s (n : Int) = .ok s[n] :=
  idxI_ok s n h

theorem idxI_neg {α} (s : List α) (i : Int) (h : i < 0) : idxI s i = .error (.other "index<0") := by
  simp [idxI]; omega

theorem idxI_ge {α} (s : List α) (i : Int) (h0 : 0 ≤ i) (h : (s.length : Int) ≤ i) :
    idxI s i = .error (.indexRange i.toNat s.length) := by
  have : s[i.toNat]? = none := by simp; omega
  simp [idxI, h0, Glb.idx?, this]

theorem idx?_ok {α} (s : List α) (n : Nat) (h : n < s.length) : Glb.idx? s n = .ok s[n] := by
  simp [Glb.idx?, h]

theorem drop_succ_of_drop {α} (s : List α) (n : Nat) (c : α) (rest : List α)
    (h : s.drop n = c :: rest) : s.drop (n + 1) = rest := by
  rw [← List.drop_drop, h]; rfl

theorem length_of_drop_nil {α} (s : List α) (n : Nat) (h : s.drop n = []) : s.length ≤ n := by
  simpa [List.drop_eq_nil_iff] using h

theorem lt_length_of_drop_cons {α} (s : List α) (n : Nat) (c : α) (rest : List α)
    (h : s.drop n = c :: rest) : n < s.length :=
  Nat.lt_of_not_le fun h1 => by simp [List.drop_of_length_le h1] at h

theorem idx_drop {α} (s : List α) (n : Nat) (c : α) (rest : List α) (h : s.drop n = c :: rest) :
    idx s (n : Int) = .ok c := by
  have hn := lt_length_of_drop_cons s n c rest h
  rw [idx_ok s n hn, (List.cons.inj ((List.drop_eq_getElem_cons hn).symm.trans h)).1]

theorem idx_cons_zero {α} (a : α) (s : List α) : idx (a :: s) (0 : Nat) = .ok a := rfl

@[simp] theorem slice_nat {α} (s : List α) (a b : Nat) : slice s (a : Int) (b : Int) = Glb.slice? s a b := by
  simp [slice]

@[simp] theorem sliceFrom_nat {α} (s : List α) (a : Nat) :
    sliceFrom s (a : Int) = Glb.slice? s a s.length := by
  simp [sliceFrom, slice]

@[simp] theorem sliceTo_nat {α} (s : List α) (b : Nat) : sliceTo s (b : Int) = Glb.slice? s 0 b :=
  slice_nat s 0 b

theorem slice_succ {α} (s : List α) (a b : Nat) : slice s ((a : Int) + 1) b = Glb.slice? s (a + 1) b :=
  slice_nat s (a + 1) b

theorem sliceFrom_succ {α} (s : List α) (a : Nat) : sliceFrom s ((a : Int) + 1) = Glb.slice? s (a + 1) s.length :=
  sliceFrom_nat s (a + 1)

theorem slice?_ok {α} (s : List α) (a b : Nat) (h1 : a ≤ b) (h2 : b ≤ s.length) :
    Glb.slice? s a b = .ok ((s.drop a).take (b - a)) :=
  if_pos ⟨h1, h2⟩

theorem slice?_from {α} (s : List α) (a : Nat) (h : a ≤ s.length) :
    Glb.slice? s a s.length = .ok (s.drop a) := by
  rw [slice?_ok s a _ h (Nat.le_refl _), List.take_of_length_le (by simp)]

theorem slice?_to {α} (s : List α) (b : Nat) (h : b ≤ s.length) :
    Glb.slice? s 0 b = .ok (s.take b) :=
  slice?_ok s 0 b (Nat.zero_le _) h

theorem slice_ok {α} (s : List α) (a b : Nat) (h1 : a ≤ b) (h2 : b ≤ s.length) :
    slice s (a : Int) (b : Int) = .ok ((s.drop a).take (b - a)) := by
  rw [slice_nat, slice?_ok s a b h1 h2]

theorem sliceFrom_ok {α} (s : List α) (a : Nat) (h : a ≤ s.length) :
    sliceFrom s (a : Int) = .ok (s.drop a) := by
  rw [sliceFrom_nat, slice?_from s a h]

theorem sliceTo_ok {α} (s : List α) (b : Nat) (h : b ≤ s.length) :
    sliceTo s (b : Int) = .ok (s.take b) := by
  rw [sliceTo_nat, slice?_to s b h]

theorem sliceFrom_one {α} (a : α) (s : List α) : sliceFrom (a :: s) 1 = .ok s :=
  sliceFrom_ok (a :: s) 1 (Nat.le_add_left 1 s.length)

theorem set_ok {α} (s : List α) (n : Nat) (v : α) (h : n < s.length) :
    set s (n : Int) v = .ok (s.set n v) :=
  if_pos ⟨Int.natCast_nonneg n, h⟩

theorem lt_of_idx?_ok {α} (s : List α) (n : Nat) (b : α) (h : Glb.idx? s n = .ok b) : n < s.length :=
  Nat.lt_of_not_le fun h1 => by simp [Glb.idx?, List.getElem?_eq_none h1] at h

/-- block `i` of a concatenation of blocks of the same length `w` -/
theorem flatMap_block {α β} (f : β → List α) (w : Nat) (hw : ∀ x, (f x).length = w) :
    ∀ (l : List β) (i : Nat) (h : i < l.length), ((l.flatMap f).drop (w * i)).take w = f l[i] := by
  intro l
  induction l with
  | nil => intro i h; exact absurd h (Nat.not_lt_zero _)
  | cons x l ih =>
    intro i h
    rw [List.flatMap_cons]
    cases i with
    | zero => rw [Nat.mul_zero, List.drop_zero, List.take_left' (hw x)]; rfl
    | succ i =>
      rw [Nat.mul_succ, Nat.add_comm, ← List.drop_drop, List.drop_left' (hw x), ih i (Nat.lt_of_succ_lt_succ h)]
      rfl

/-- One evaluation of a loop from `st`, in general: `P` holds of the outcome where the loop ends with this
    evaluation, `K s'` of the state `s'` with which it goes round again.  `StepOK` and `StepSim` below are
    this with their own `P` and `K`. -/
def LoopStep {σ ρ} (cond : σ → M Bool) (body : σ → M (Ctl σ ρ)) (post : σ → M σ)
    (P : M (Sum σ ρ) → Prop) (K : σ → Prop) (st : σ) : Prop :=
  match cond st with
  | .error e => P (.error e)
  | .ok false => P (.ok (.inl st))
  | .ok true =>
    match body st with
    | .error e => P (.error e)
    | .ok (.ret r) => P (.ok (.inr r))
    | .ok (.brk s) => P (.ok (.inl s))
    | .ok (.next s) =>
      match post s with
      | .error e => P (.error e)
      | .ok s' => K s'

/-- The induction over the fuel behind `loop_eq` and `loop_sim` (`loop_range` and `loop_count` carry
    their own): if going round again (`K`) restores the invariant, lowers the measure and hands `P` back
    from the next state, then `P st` holds of the loop's outcome from
    every state satisfying the invariant, whenever the fuel exceeds the measure. -/
theorem loop_rule {σ ρ} {cond : σ → M Bool} {body : σ → M (Ctl σ ρ)} {post : σ → M σ}
    (Inv : σ → Prop) (measure : σ → Nat) (P : σ → M (Sum σ ρ) → Prop) (K : σ → σ → Prop)
    (hK : ∀ st s', K st s' → Inv s' ∧ measure s' < measure st ∧ ∀ x, P s' x → P st x)
    (hstep : ∀ st, Inv st → LoopStep cond body post (P st) (K st) st) :
    ∀ (fuel : Nat) (st : σ), Inv st → measure st < fuel → P st (loop st fuel cond body post) := by
  intro fuel
  induction fuel with
  | zero => exact fun _ _ h => absurd h (Nat.not_lt_zero _)
  | succ n ih =>
    intro st hinv hm
    have hs := hstep st hinv
    unfold LoopStep at hs
    split at hs
    · simpa only [loop_succ, ‹cond st = _›] using hs
    · rwa [loop_exit st n _ _ _ ‹_›]
    · split at hs
      · simpa only [loop_succ, ‹cond st = _›, ‹body st = _›] using hs
      · rwa [loop_ret st _ n _ _ _ ‹_› ‹_›]
      · rwa [loop_brk st _ n _ _ _ ‹_› ‹_›]
      · split at hs
        · simpa only [loop_succ, ‹cond st = _›, ‹body st = _›, ‹post _ = _›] using hs
        · obtain ⟨h1, h2, h3⟩ := hK _ _ hs
          rw [loop_step st _ _ n _ _ _ ‹_› ‹_› ‹_›]
          exact h3 _ (ih _ h1 (Nat.lt_of_lt_of_le h2 (Nat.le_of_lt_succ hm)))

/-- What one evaluation of a loop from state `st` must look like for `model` to describe the loop:
    `model st` is the loop's whole outcome from `st`. -/
def StepOK {σ ρ} (cond : σ → M Bool) (body : σ → M (Ctl σ ρ)) (post : σ → M σ)
    (Inv : σ → Prop) (measure : σ → Nat) (model : σ → M (Sum σ ρ)) (st : σ) : Prop :=
  match cond st with
  | .error e => model st = .error e
  | .ok false => model st = .ok (.inl st)
  | .ok true =>
    match body st with
    | .error e => model st = .error e
    | .ok (.ret r) => model st = .ok (.inr r)
    | .ok (.brk s) => model st = .ok (.inl s)
    | .ok (.next s) =>
      match post s with
      | .error e => model st = .error e
      | .ok s' => Inv s' ∧ measure s' < measure st ∧ model st = model s'

/-- The loop rule: a `model` that is correct for one evaluation from every state satisfying the
    invariant, with a measure that decreases around the loop, describes the loop whenever the fuel
    exceeds the measure (so the fuel never runs out). -/
theorem loop_eq {σ ρ} {cond : σ → M Bool} {body : σ → M (Ctl σ ρ)} {post : σ → M σ}
    (Inv : σ → Prop) (measure : σ → Nat) (model : σ → M (Sum σ ρ))
    (hstep : ∀ st, Inv st → StepOK cond body post Inv measure model st) :
    ∀ (fuel : Nat) (st : σ), Inv st → measure st < fuel → loop st fuel cond body post = model st :=
  fun fuel st hinv hm => (loop_rule Inv measure (fun st x => model st = x)
    (fun st s' => Inv s' ∧ measure s' < measure st ∧ model st = model s')
    (fun _ _ h => ⟨h.1, h.2.1, fun _ hx => h.2.2.trans hx⟩) hstep fuel st hinv hm).symm

/-! ### introduction rules for `StepOK`, one for each way an evaluation of a translated loop can go

  A tie proof that uses them says what the iteration does and never sees the case analysis of
  `StepOK`, every branch of which repeats `model st`. -/

section StepOK
variable {σ ρ : Type} {cond : σ → M Bool} {body : σ → M (Ctl σ ρ)} {post : σ → M σ}
  {Inv : σ → Prop} {measure : σ → Nat} {model : σ → M (Sum σ ρ)} {st : σ}

theorem StepOK.exit (hc : cond st = .ok false) (h : model st = .ok (.inl st)) :
    StepOK cond body post Inv measure model st := by
  simp only [StepOK, hc]; exact h

/-- the body runs to its end (or `continue`s) and the post statement succeeds -/
theorem StepOK.next (hc : cond st = .ok true)
    (h : ∃ s s', body st = .ok (.next s) ∧ post s = .ok s' ∧
      Inv s' ∧ measure s' < measure st ∧ model st = model s') :
    StepOK cond body post Inv measure model st := by
  obtain ⟨s, s', hb, hp, h⟩ := h
  simp only [StepOK, hc, hb, hp]; exact h

/-- the body returns from the function, or panics, as `m` does -/
theorem stepOK_ret (st : σ) (m : M ρ) (hc : cond st = .ok true)
    (hb : body st = m >>= fun r => pure (.ret r)) (hm : model st = m >>= fun r => pure (.inr r)) :
    StepOK cond body post Inv measure model st := by
  unfold StepOK
  rw [hc, hb, hm]
  cases m <;> rfl

theorem StepOK.ret {r : ρ} (hc : cond st = .ok true) (hb : body st = .ok (.ret r))
    (h : model st = .ok (.inr r)) : StepOK cond body post Inv measure model st :=
  stepOK_ret st (.ok r) hc hb h

theorem StepOK.brk {s : σ} (hc : cond st = .ok true) (hb : body st = .ok (.brk s))
    (h : model st = .ok (.inl s)) : StepOK cond body post Inv measure model st := by
  simp only [StepOK, hc, hb]; exact h

/-- the condition holds and the body yields `c`: what remains is the rule for a loop whose body is
    the constant `c` -/
theorem StepOK.of_body (c : Ctl σ ρ) (hc : cond st = .ok true) (hb : body st = .ok c)
    (h : StepOK (fun _ => .ok true) (fun _ => .ok c) post Inv measure model st) :
    StepOK cond body post Inv measure model st := by
  simp only [StepOK, hc, hb] at h ⊢; exact h

end StepOK

/-- What the body and the post statement of `for i := …; i < len(s); i++` must do from a state `st`
    whose index is `n`, when `now` is the loop's outcome from `st` and `next` its outcome from the
    state of the following evaluation. -/
def RangeStep {σ ρ} (body : σ → M (Ctl σ ρ)) (post : σ → M σ) (ix : σ → Int) (n : Nat)
    (now : M (Sum σ ρ)) (next : σ → M (Sum σ ρ)) (st : σ) : Prop :=
  match body st with
  | .error e => now = .error e
  | .ok (.ret r) => now = .ok (.inr r)
  | .ok (.brk s) => now = .ok (.inl s)
  | .ok (.next s) =>
    match post s with
    | .error e => now = .error e
    | .ok s' => ix s' = n + 1 ∧ now = next s'

/-- `loop_eq` for a loop whose index `ix st` runs up to `len(s)`: the model is a function of the
    suffix of `s` not yet visited, so that a step is stated about `c :: rest` and `rest`; the bounds
    on the index, the measure and the exit are dealt with here. -/
theorem loop_range {σ ρ α} {cond : σ → M Bool} {body : σ → M (Ctl σ ρ)} {post : σ → M σ}
    (s : List α) (ix : σ → Int) (model : List α → σ → M (Sum σ ρ))
    (hcond : ∀ st, cond st = .ok (decide (ix st < s.length)))
    (hnil : ∀ st, ix st = s.length → model [] st = .ok (.inl st))
    (hcons : ∀ st (n : Nat) c rest, ix st = n → s.drop n = c :: rest → idx s (n : Int) = .ok c →
      RangeStep body post ix n (model (c :: rest) st) (model rest) st)
    (fuel : Nat) (st : σ) (n : Nat) (hn : ix st = n) (hle : n ≤ s.length) (hf : s.length - n < fuel) :
    loop st fuel cond body post = model (s.drop n) st := by
  induction fuel generalizing st n with
  | zero => exact absurd hf (Nat.not_lt_zero _)
  | succ fuel ih =>
    cases hd : s.drop n with
    | nil =>
      have hl : n = s.length := Nat.le_antisymm hle (length_of_drop_nil s n hd)
      have hc : cond st = .ok false := by rw [hcond, hn, hl, decide_eq_false (Int.lt_irrefl _)]
      rw [loop_exit st fuel _ _ _ hc, hnil st (hl ▸ hn)]
    | cons c rest =>
      have hl := lt_length_of_drop_cons s n c rest hd
      have hc : cond st = .ok true := by rw [hcond, hn, decide_eq_true (Int.ofNat_lt.mpr hl)]
      have hs := hcons st n c rest hn hd (idx_drop s n c rest hd)
      unfold RangeStep at hs
      split at hs
      · simp only [hs, loop_succ, hc, ‹body st = _›]
      · rw [hs, loop_ret st _ fuel _ _ _ hc ‹_›]
      · rw [hs, loop_brk st _ fuel _ _ _ hc ‹_›]
      · split at hs
        · simp only [hs, loop_succ, hc, ‹body st = _›, ‹post _ = _›]
        · rw [hs.2, loop_step st _ _ fuel _ _ _ hc ‹_› ‹_›, ih _ (n + 1) hs.1 hl (by omega),
            drop_succ_of_drop s n c rest hd]

section RangeStep
variable {σ ρ : Type} {body : σ → M (Ctl σ ρ)} {post : σ → M σ} {ix : σ → Int} {n : Nat}
  {now : M (Sum σ ρ)} {after : σ → M (Sum σ ρ)} {st : σ}

theorem RangeStep.next (h : ∃ s s', body st = .ok (.next s) ∧ post s = .ok s' ∧
      ix s' = n + 1 ∧ now = after s') : RangeStep body post ix n now after st := by
  obtain ⟨s, s', hb, hp, h⟩ := h
  simp only [RangeStep, hb, hp]; exact h

theorem RangeStep.brk {s : σ} (hb : body st = .ok (.brk s)) (h : now = .ok (.inl s)) :
    RangeStep body post ix n now after st := by
  simp only [RangeStep, hb]; exact h

/-- the body returns from the function, or panics, as `m` does -/
theorem RangeStep.ret (m : M ρ) (hb : body st = m >>= fun r => pure (.ret r))
    (h : now = m >>= fun r => pure (.inr r)) : RangeStep body post ix n now after st := by
  unfold RangeStep
  rw [hb, h]
  cases m <;> rfl

theorem RangeStep.of_body (c : Ctl σ ρ) (hb : body st = .ok c)
    (h : RangeStep (fun _ => .ok c) post ix n now after st) :
    RangeStep body post ix n now after st := by
  simp only [RangeStep, hb] at h ⊢; exact h

end RangeStep

/-- a search loop `for i := 0; i < len(xs); i++ { if q xs[i] { return r } }` -/
theorem loop_search {γ ρ} (xs : List γ) (q : γ → Bool) (r : ρ)
    {cond : Int → M Bool} {body : Int → M (Ctl Int ρ)} {post : Int → M Int}
    (hc : cond = fun i => pure (decide (i < (xs.length : Int))))
    (hb : ∀ (i : Nat) (h : i < xs.length),
      body (i : Int) = .ok (if q xs[i] then .ret r else .next (i : Int)))
    (hp : ∀ i : Nat, post (i : Int) = .ok ((i + 1 : Nat) : Int))
    (fuel : Nat) (hf : xs.length < fuel) :
    loop (0 : Int) fuel cond body post =
      .ok (if xs.any q then .inr r else .inl (xs.length : Int)) := by
  refine loop_range xs id (fun rest _ => .ok (if rest.any q then .inr r else .inl (xs.length : Int)))
    (fun _ => hc ▸ rfl) (fun st h => ?_) (fun st n c rest hn hd hi => ?_) fuel 0 0 rfl (Nat.zero_le _) hf
  · exact congrArg (fun i => Except.ok (Sum.inl i)) h.symm
  · obtain rfl : st = n := hn
    have hl := lt_length_of_drop_cons xs n c rest hd
    obtain rfl := Except.ok.inj ((idx_ok xs n hl).symm.trans hi)
    rw [List.any_cons]
    cases hq : q xs[n]
    · exact .next ⟨_, _, by rw [hb n hl, hq]; rfl, hp n, rfl, rfl⟩
    · exact .ret (.ok r) (by rw [hb n hl, hq]; rfl) rfl

/-- a counting loop `for i := 0; i < N; i++ { … }` over a state `x` whose body neither breaks,
    returns nor panics while the invariant `I i x` holds: it ends normally with `i = N` and `I N x`.
    Continuation form, for an arbitrary post-condition `P` of the enclosing function. -/
theorem loop_count {α ρ β} {cond : α × Int → M Bool} {body : α × Int → M (Ctl (α × Int) ρ)}
    {post : α × Int → M (α × Int)} {k : Sum (α × Int) ρ → M β} {fuel : Nat} {x0 : α}
    (P : M β → Prop) (N : Nat) (I : Nat → α → Prop)
    (hc : ∀ x (i : Nat), I i x → cond (x, (i : Int)) = .ok (decide ((i : Int) < (N : Int))))
    (hb : ∀ x (i : Nat), i < N → I i x →
      ∃ x', body (x, (i : Int)) = .ok (.next (x', (i : Int))) ∧ I (i + 1) x')
    (hp : post = fun st => pure (st.1, st.2 + 1))
    (h0 : I 0 x0) (hf : N < fuel) (hk : ∀ x, I N x → P (k (.inl (x, (N : Int))))) :
    P (loop (x0, (0 : Int)) fuel cond body post >>= k) := by
  suffices h : ∀ fuel (i : Nat) x, i ≤ N → N - i < fuel → I i x →
      P (loop (x, (i : Int)) fuel cond body post >>= k) from h fuel 0 x0 (Nat.zero_le N) hf h0
  intro fuel
  induction fuel with
  | zero => intro i x _ hfu; omega
  | succ fuel ih =>
    intro i x hi hfu hx
    by_cases hlt : i < N
    · obtain ⟨x', hb1, hb2⟩ := hb x i hlt hx
      rw [loop_step _ _ _ _ _ _ _ ((hc x i hx).trans (by rw [decide_eq_true (Int.ofNat_lt.2 hlt)])) hb1 (congrFun hp _)]
      exact ih (i + 1) x' hlt (by omega) hb2
    · obtain rfl : i = N := by omega
      rw [loop_exit _ _ _ _ _ ((hc x i hx).trans (by rw [decide_eq_false (Int.lt_irrefl _)]))]
      exact hk x hx

/-! ### a loop against a specification that does not fix the whole exit state

`loop_eq` needs a model of the loop's complete result.  A loop may leave variables behind which nothing
reads afterwards and a hand model does not compute (`left` and `right` in tree.go); `loop_sim` ties
such a loop to a specification up to a relation `Q` between the two results. -/

/-- `x` is what `m` prescribes: the same panic, or a result related to `m`'s by `Q` -/
def Sim {τ α} (Q : τ → α → Prop) (m : M τ) (x : M α) : Prop :=
  match m with
  | .error e => x = .error e
  | .ok t => ∃ a, x = .ok a ∧ Q t a

/-- one evaluation of the loop from `st` against `spec`: where the loop ends, `spec st` prescribes the result -/
def StepSim {σ ρ τ} (cond : σ → M Bool) (body : σ → M (Ctl σ ρ)) (post : σ → M σ)
    (Inv : σ → Prop) (measure : σ → Nat) (spec : σ → M τ) (Q : τ → Sum σ ρ → Prop) (st : σ) : Prop :=
  match cond st with
  | .error e => Sim Q (spec st) (.error e)
  | .ok false => Sim Q (spec st) (.ok (.inl st))
  | .ok true =>
    match body st with
    | .error e => Sim Q (spec st) (.error e)
    | .ok (.ret r) => Sim Q (spec st) (.ok (.inr r))
    | .ok (.brk s) => Sim Q (spec st) (.ok (.inl s))
    | .ok (.next s) =>
      match post s with
      | .error e => Sim Q (spec st) (.error e)
      | .ok s' => Inv s' ∧ measure s' < measure st ∧ spec st = spec s'

theorem loop_sim {σ ρ τ} {cond : σ → M Bool} {body : σ → M (Ctl σ ρ)} {post : σ → M σ}
    (Inv : σ → Prop) (measure : σ → Nat) (spec : σ → M τ) (Q : τ → Sum σ ρ → Prop)
    (hstep : ∀ st, Inv st → StepSim cond body post Inv measure spec Q st) :
    ∀ (fuel : Nat) (st : σ) {L : M (Sum σ ρ)}, loop st fuel cond body post = L → Inv st → measure st < fuel →
      Sim Q (spec st) L :=
  fun fuel st _ hL hinv hm => hL ▸ loop_rule Inv measure (fun st x => Sim Q (spec st) x)
    (fun st s' => Inv s' ∧ measure s' < measure st ∧ spec st = spec s')
    (fun _ _ h => ⟨h.1, h.2.1, fun _ hx => h.2.2 ▸ hx⟩) hstep fuel st hinv hm

/-! ### index loops `for ; right <= n; right++` whose `left` and `right` are Go ints -/

def IdxInv (n : Nat) (l r : Int) : Prop := 0 ≤ l ∧ 0 ≤ r ∧ r ≤ (n : Int) + 1

def idxMeasure (n : Nat) (r : Int) : Nat := n + 1 - r.toNat

/-- a model `m fuel left right` over natural numbers, read at Go ints -/
def viaNat {β} (n : Nat) (m : Nat → Nat → Nat → β) (l r : Int) : β := m (idxMeasure n r) l.toNat r.toNat

theorem IdxInv.nat {n : Nat} {l r : Int} (h : IdxInv n l r) : ∃ l' r' : Nat, l = l' ∧ r = r' :=
  ⟨l.toNat, r.toNat, (Int.toNat_of_nonneg h.1).symm, (Int.toNat_of_nonneg h.2.1).symm⟩

theorem viaNat_le {β} {n r : Nat} (m : Nat → Nat → Nat → β) (l : Nat) (h : r ≤ n) :
    viaNat n m l r = m (n - r + 1) l r := by
  simp only [viaNat, idxMeasure, Int.toNat_natCast, Nat.sub_add_comm h]

theorem viaNat_gt {β} {n r : Nat} (m : Nat → Nat → Nat → β) (l : Nat) (h : ¬ r ≤ n) :
    viaNat n m l r = m 0 l r := by
  simp only [viaNat, idxMeasure, Int.toNat_natCast, Nat.sub_eq_zero_of_le (Nat.lt_of_not_le h)]

/-- after `left = l'; right++` from `right = r ≤ n` -/
theorem idx_next {β} {n r : Nat} (m : Nat → Nat → Nat → β) (l' : Nat) (h : r ≤ n) :
    IdxInv n l' ((r : Int) + 1) ∧ idxMeasure n ((r : Int) + 1) < idxMeasure n r ∧
      m (n - r) l' (r + 1) = viaNat n m l' ((r : Int) + 1) := by
  simp only [viaNat, idxMeasure, Int.toNat_natCast, Int.toNat_natCast_add_one, Nat.add_sub_add_right]
  exact ⟨⟨Int.natCast_nonneg _, by omega, by omega⟩, by omega, trivial⟩

theorem ok_bind {α β} (a : α) (f : α → M β) : (Except.ok a >>= f) = f a := rfl

/-- `ok_bind` for goals in which `simp only [bind]` has replaced `>>=` by `Except.bind` -/
theorem bind_ok {ε α β} (a : α) (f : α → Except ε β) : Except.bind (.ok a) f = f a := rfl

theorem ite_bind {α β} (c : Prop) [Decidable c] (a b : M α) (f : α → M β) :
    (if c then a else b) >>= f = if c then a >>= f else b >>= f := by
  split <;> rfl

/-- the translator's `strings.IndexByte` (a Go int, -1 = absent) from position `k` on, by the list's
    own search, to which every model's `indexByte` is tied by its two equations -/
theorem indexByteFrom_eq (c : UInt8) (s : Bytes) (k : Nat) :
    Lib.indexByteFrom c s k =
      match s.findIdx? (· == c) with
      | some p => ((k + p : Nat) : Int)
      | none => -1 := by
  induction s generalizing k with
  | nil => rfl
  | cons b rest ih =>
    simp only [Lib.indexByteFrom, List.findIdx?_cons, ih]
    cases b == c
    · cases rest.findIdx? (· == c)
      · rfl
      · simp +arith
    · rfl

end Glb.Go
