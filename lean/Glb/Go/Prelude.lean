/-
  Glb.Go.Prelude — target language of the Go→Lean translator (`tools/extract/golean.go`).

  The translator prints every Go function of its subset as a Lean `do` block in the monad
  `M = Except GoPanic`; Lean's own `do` notation carries the mutable locals of straight-line code
  and of `if`/`switch`.  Loops are NOT left to `do` notation: every Go `for` becomes one call of
  `Go.loop` (state tuple = the variables the loop assigns, a fuel bound, condition / body / post
  statement), so that theorems about translated code are plain inductions over the fuel.

  Conventions (the translator's reading of Go, part of the trusted base):
    * `string`, `[]byte`  ↦ `Bytes = List UInt8` (value semantics; aliasing of slices is NOT
      represented — the translator refuses functions that store into a slice they did not build);
    * `byte`/`uint8` ↦ `UInt8`, `uint32` ↦ `UInt32` (wrap-around arithmetic, as in Go);
    * `int` ↦ `Int` (unbounded: overflow of 64-bit ints is not represented);
    * `s[i]`, `s[a:b]` panic exactly when Go's bounds checks fail (`GoPanic`), never totalised;
    * running out of fuel is the error `.other "fuel"`; every tie theorem shows it cannot happen.
  Core Lean only.
-/
import Glb.Basic

namespace Glb.Go

abbrev M := Except GoPanic

/-- `len(x)` -/
@[inline] def len {α} (s : List α) : Int := (s.length : Int)

/-- `s[i]` with Go's bounds check for a Go `int` index -/
def idxI {α} (s : List α) (i : Int) : M α :=
  if 0 ≤ i then Glb.idx? s i.toNat else .error (.other "index<0")

/-- `s[lo:hi]` -/
def slice {α} (s : List α) (lo hi : Int) : M (List α) :=
  if 0 ≤ lo ∧ 0 ≤ hi then Glb.slice? s lo.toNat hi.toNat else .error (.other "slice<0")

/-- `s[lo:]` -/
def sliceFrom {α} (s : List α) (lo : Int) : M (List α) := slice s lo (len s)

/-- `s[:hi]` -/
def sliceTo {α} (s : List α) (hi : Int) : M (List α) := slice s 0 hi

/-- `s[i] = v` on a slice/array the function owns -/
def set {α} (s : List α) (i : Int) (v : α) : M (List α) :=
  if 0 ≤ i ∧ i.toNat < s.length then .ok (s.set i.toNat v)
  else .error (.indexRange i.toNat s.length)

/-- `m[k]` on a Go map with string keys, as an association list (the models keep keys distinct);
    for pointer-valued maps `none` is Go's `nil` -/
def mapGet {α} : List (Bytes × α) → Bytes → Option α
  | [], _ => none
  | (k', v) :: r, k => if k' = k then some v else mapGet r k

/-- `m[k]` on a `map[string]string`: the empty string for a missing key -/
def mapGetD (m : List (Bytes × Bytes)) (k : Bytes) : Bytes := (mapGet m k).getD []

/-- control outcome of one loop iteration -/
inductive Ctl (σ ρ : Type) where
  | next (s : σ)      -- fell off the end of the body, or `continue`
  | brk (s : σ)       -- `break`
  | ret (r : ρ)       -- `return r` from the enclosing function

/-- `for ; cond; post { body }` from state `st`, at most `fuel` evaluations of `cond`.
    `.inl st'`: the loop was left normally (condition false, or `break`) in state `st'`;
    `.inr r`: the body executed `return r`. -/
def loop {σ ρ} (st : σ) (fuel : Nat) (cond : σ → M Bool) (body : σ → M (Ctl σ ρ))
    (post : σ → M σ) : M (Sum σ ρ) :=
  match fuel with
  | 0 => .error (.other "fuel")
  | fuel + 1 =>
    match cond st with
    | .error e => .error e
    | .ok false => .ok (.inl st)
    | .ok true =>
      match body st with
      | .error e => .error e
      | .ok (.brk s) => .ok (.inl s)
      | .ok (.ret r) => .ok (.inr r)
      | .ok (.next s) =>
        match post s with
        | .error e => .error e
        | .ok s' => loop s' fuel cond body post

/-- Go's `+` on strings is concatenation -/
instance : Add Bytes := ⟨List.append⟩
@[simp] theorem add_bytes (a b : Bytes) : a + b = a ++ b := rfl

/-- Go's `&` on (two's complement) ints -/
def iand : Int → Int → Int
  | .ofNat a, .ofNat b => ((a &&& b : Nat) : Int)
  | .ofNat a, .negSucc b => ((a - (a &&& b) : Nat) : Int)       -- a & ^b
  | .negSucc a, .ofNat b => ((b - (b &&& a) : Nat) : Int)
  | .negSucc a, .negSucc b => .negSucc (a ||| b)
instance : AndOp Int := ⟨iand⟩
theorem iand_nat (a b : Nat) : ((a : Int) &&& (b : Int)) = ((a &&& b : Nat) : Int) := rfl

/-- bit operators: both operands have the same Go type (a constant operand takes the other's type) -/
abbrev band {α} [AndOp α] (a b : α) : α := a &&& b
abbrev bor {α} [OrOp α] (a b : α) : α := a ||| b
abbrev bxor {α} [XorOp α] (a b : α) : α := a ^^^ b
abbrev shl {α} [HShiftLeft α α α] (a b : α) : α := a <<< b
abbrev shr {α} [HShiftRight α α α] (a b : α) : α := a >>> b

/-! ### conversions (resolved by Lean's elaborator from the operand's type) -/

class ToInt (α : Type) where toInt : α → Int
instance : ToInt Int := ⟨id⟩
instance : ToInt UInt8 := ⟨fun b => (b.toNat : Int)⟩
instance : ToInt UInt32 := ⟨fun b => (b.toNat : Int)⟩
instance : ToInt Nat := ⟨fun n => (n : Int)⟩

/-- `s[i]` for an index of any Go integer type (`int`, `byte`, `uint32`; an untyped constant
    index elaborates as `Nat`) -/
def idx {α ι} [ToInt ι] (s : List α) (i : ι) : M α := idxI s (ToInt.toInt i)

@[simp] theorem idx_int {α} (s : List α) (i : Int) : idx s i = idxI s i := rfl
@[simp] theorem idx_u8 {α} (s : List α) (b : UInt8) : idx s b = idxI s (b.toNat : Int) := rfl
@[simp] theorem idx_u32 {α} (s : List α) (b : UInt32) : idx s b = idxI s (b.toNat : Int) := rfl
@[simp] theorem idx_natlit {α} (s : List α) (n : Nat) : idx s n = idxI s (n : Int) := rfl

instance : ToInt (BitVec 32) := ⟨fun b => (b.toNat : Int)⟩

/-- `s[i] = v` for an index of any Go integer type -/
def setG {α ι} [ToInt ι] (s : List α) (i : ι) (v : α) : M (List α) := set s (ToInt.toInt i) v

/-- `uint32(x)` when Go's uint32 is modelled by `BitVec 32` -/
class ToBV32 (α : Type) where toBV32 : α → BitVec 32
instance : ToBV32 (BitVec 32) := ⟨id⟩
instance : ToBV32 Int := ⟨fun i => BitVec.ofInt 32 i⟩
instance : ToBV32 UInt8 := ⟨fun b => BitVec.ofNat 32 b.toNat⟩

/-! ### `map[K]bool` as an association list with distinct keys -/

/-- `m[k]` (false for a missing key) -/
def mapHas {κ} [DecidableEq κ] : List (κ × Bool) → κ → Bool
  | [], _ => false
  | (k', v) :: r, k => if k' = k then v else mapHas r k

/-- `m[k] = v` -/
def mapPut {κ} [DecidableEq κ] : List (κ × Bool) → κ → Bool → List (κ × Bool)
  | [], k, v => [(k, v)]
  | (k', v') :: r, k, v => if k' = k then (k, v) :: r else (k', v') :: mapPut r k v

/-- `delete(m, k)` -/
def mapDel {κ} [DecidableEq κ] (m : List (κ × Bool)) (k : κ) : List (κ × Bool) :=
  m.filter fun e => !(decide (e.1 = k))

class ToByte (α : Type) where toByte : α → UInt8
instance : ToByte UInt8 := ⟨id⟩
/-- `byte(i)` for a Go int: the low eight bits (two's complement) -/
instance : ToByte Int := ⟨fun i => UInt8.ofNat (i % 256).toNat⟩
instance : ToByte UInt32 := ⟨fun w => w.toUInt8⟩
instance : ToByte UInt64 := ⟨fun w => w.toUInt8⟩

class ToU32 (α : Type) where toU32 : α → UInt32
instance : ToU32 UInt32 := ⟨id⟩
instance : ToU32 UInt8 := ⟨fun b => b.toUInt32⟩
instance : ToU32 Int := ⟨fun i => UInt32.ofNat (i % 4294967296).toNat⟩

/-- `string(b)` / `[]byte(s)` — both sides are `Bytes` -/
@[inline] def toStr (b : Bytes) : Bytes := b

/-- Go's `/` and `%` on ints truncate toward zero; the translator only emits them for a non-zero
    literal divisor (anything else is refused), so they are total here. -/
@[inline] def idiv (a b : Int) : Int := Int.tdiv a b
@[inline] def imod (a b : Int) : Int := Int.tmod a b

/-! ### the few standard-library functions translated code calls (hand models, trusted;
    each is compared with the real function by the correspondence stream of its caller) -/
namespace Lib

/-- `strings.HasPrefix` -/
def hasPrefix (s p : Bytes) : Bool := p.isPrefixOf s

/-- the loop of `replaceAll`, left to right with fuel: at an occurrence of `old` write `new` and skip it,
    else copy one byte -/
def replaceAllAux (old new : Bytes) : Nat → Bytes → Bytes
  | 0, s => s
  | _ + 1, [] => []
  | f + 1, c :: rest =>
    if old.isPrefixOf (c :: rest) then new ++ replaceAllAux old new f ((c :: rest).drop old.length)
    else c :: replaceAllAux old new f rest

/-- `strings.Replace(s, old, new, n)` for non-empty `old` and `n < 0` (replace all,
    non-overlapping, left to right); other argument shapes are refused by the translator -/
def replaceAll (s old new : Bytes) : Bytes := replaceAllAux old new (s.length + 1) s

/-- decimal digits of a natural number, most significant first (`fuel` ≥ number of digits) -/
def natDigits : Nat → Nat → Bytes
  | 0, _ => []
  | f + 1, n => if n < 10 then [UInt8.ofNat (48 + n)] else natDigits f (n / 10) ++ [UInt8.ofNat (48 + n % 10)]

/-- `strconv.Itoa` / `strconv.FormatInt(n, 10)` -/
def itoa (n : Int) : Bytes :=
  if n < 0 then 45 :: natDigits (n.natAbs + 1) n.natAbs else natDigits (n.natAbs + 1) n.natAbs

/-- `strconv.AppendInt(buf, n, 10)` (the translator refuses another base) -/
def appendInt10 (buf : Bytes) (n : Int) : Bytes := buf ++ itoa n

/-- first index of `c` at or after position `k`, as a Go int (`-1`: absent) -/
def indexByteFrom (c : UInt8) : Bytes → Nat → Int
  | [], _ => -1
  | b :: rest, k => if b == c then (k : Int) else indexByteFrom c rest (k + 1)

/-- `strings.IndexByte(s, c)` -/
def indexByte (s : Bytes) (c : UInt8) : Int := indexByteFrom c s 0

/-- `strings.Repeat(s, n)` for `n ≥ 0` (a negative count panics in Go; the translator's callers guard it) -/
def repeatBytes (s : Bytes) (n : Int) : M Bytes :=
  if n < 0 then .error (.other "strings: negative Repeat count")
  else .ok ((List.replicate n.toNat s).flatten)

/-- `binary.BigEndian.Uint32(b)`: the first four bytes (panics when there are fewer) -/
def be32 (b : Bytes) : M (BitVec 32) :=
  match b with
  | a :: b :: c :: d :: _ =>
    .ok ((BitVec.ofNat 32 a.toNat <<< 24) ||| (BitVec.ofNat 32 b.toNat <<< 16) |||
         (BitVec.ofNat 32 c.toNat <<< 8) ||| BitVec.ofNat 32 d.toNat)
  | _ => .error (.indexRange 3 b.length)

/-- `net.IP.To4()`: the 4-byte form of an IPv4 address given in 4 or 16 bytes, `none` = nil -/
def to4 (ip : Bytes) : Option Bytes :=
  if ip.length = 4 then some ip
  else if ip.length = 16 ∧ (ip.take 10).all (· == 0) ∧ ip[10]? = some 0xff ∧ ip[11]? = some 0xff
  then some (ip.drop 12)
  else none

end Lib

end Glb.Go
