/-
  Glb.Go.LemmasJsonString — a Hoare-style rule for `Glb.Go.loop` (helper of Tie/TrJsonString.lean).

  `loop_eq` needs a `model` that is a *function* of the state; for a loop whose final state is not a
  convenient function of the start state (here: the lazily copied run `str[start:i]`), a relational
  invariant is easier: if `Inv` is preserved by every evaluation, the loop never breaks / returns /
  panics under `Inv`, and a measure decreases, then the loop ends normally in some state satisfying
  `Inv` in which the condition is false.  Stated in continuation form so that it can be applied
  (`refine loop_inv_bind …`) to a goal `loop … >>= k = r` without naming the generated lambdas.
-/
import Glb.Go.Lemmas

namespace Glb.Go

/-- one evaluation of the loop from a state satisfying `Inv`: the condition does not panic; if it is
    true the body falls through (`next`), the post statement succeeds, `Inv` holds again and the
    measure went down -/
def StepInv {σ ρ} (cond : σ → M Bool) (body : σ → M (Ctl σ ρ)) (post : σ → M σ)
    (Inv : σ → Prop) (measure : σ → Nat) (st : σ) : Prop :=
  match cond st with
  | .error _ => False
  | .ok false => True
  | .ok true =>
    match body st with
    | .ok (.next s) =>
      match post s with
      | .error _ => False
      | .ok s' => Inv s' ∧ measure s' < measure st
    | _ => False

theorem loop_inv {σ ρ} {cond : σ → M Bool} {body : σ → M (Ctl σ ρ)} {post : σ → M σ}
    (Inv : σ → Prop) (measure : σ → Nat)
    (hstep : ∀ st, Inv st → StepInv cond body post Inv measure st) :
    ∀ (fuel : Nat) (st : σ), Inv st → measure st < fuel →
      ∃ st', loop st fuel cond body post = .ok (.inl st') ∧ Inv st' ∧ cond st' = .ok false := by
  intro fuel
  induction fuel with
  | zero => exact fun _ _ h => absurd h (Nat.not_lt_zero _)
  | succ n ih =>
    intro st hinv hm
    have hs := hstep st hinv
    unfold StepInv at hs
    split at hs
    · exact hs.elim
    · exact ⟨st, loop_exit st n _ _ _ ‹_›, hinv, ‹_›⟩
    · split at hs
      · split at hs
        · exact hs.elim
        · rw [loop_step st _ _ n _ _ _ ‹_› ‹_› ‹_›]
          exact ih _ hs.1 (Nat.lt_of_lt_of_le hs.2 (Nat.le_of_lt_succ hm))
      · exact hs.elim

/-- continuation form of `loop_inv` -/
theorem loop_inv_bind {σ ρ β} {cond : σ → M Bool} {body : σ → M (Ctl σ ρ)} {post : σ → M σ}
    {st0 : σ} {fuel : Nat} {k : Sum σ ρ → M β} {r : M β}
    (Inv : σ → Prop) (measure : σ → Nat)
    (hstep : ∀ st, Inv st → StepInv cond body post Inv measure st)
    (hinv : Inv st0) (hm : measure st0 < fuel)
    (hk : ∀ st', Inv st' → cond st' = .ok false → k (.inl st') = r) :
    (loop st0 fuel cond body post >>= k) = r := by
  obtain ⟨st', h1, h2, h3⟩ := loop_inv Inv measure hstep fuel st0 hinv hm
  rw [h1]
  exact hk st' h2 h3

end Glb.Go
