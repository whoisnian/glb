/-
  Regenerated tie for the logger properties (C01, C13, …): the tables read from
  /repo/logger/{json_handler,level}.go are what the theorems assume them to be.
  Re-proved by `decide` on every run; a changed table entry breaks this file.
-/
import Glb.Generated.StatusLogger
import Glb.Model.JsonHandler
import Glb.Spec.Json

namespace Glb.Tie.Logger
open Glb Glb.JsonHandler

/-- the table as read from the source, entry by entry, is the predicate it is meant to tabulate -/
theorem safeSet_eq :
    Generated.safeSet = (List.range 128).map (fun n => decide (0x20 ≤ n ∧ n ≠ 0x22 ∧ n ≠ 0x5C)) := by
  decide

/-- `safeSet` is a `[utf8.RuneSelf]bool`: every index `b < 0x80` is in range -/
theorem safeSet_length : Generated.safeSet.length = 128 := by
  rw [safeSet_eq, List.length_map, List.length_range]

/-- `safeSet[b]` ⇔ `0x20 ≤ b < 0x80 ∧ b ≠ '"' ∧ b ≠ '\\'` — all 128 entries -/
theorem safeSet_spec : ∀ n ∈ List.range 128,
    Generated.safeSet[n]? = some (decide (0x20 ≤ n ∧ n ≠ 0x22 ∧ n ≠ 0x5C)) := by
  intro n hn
  rw [safeSet_eq, List.getElem?_map, List.getElem?_range (List.mem_range.mp hn)]
  rfl

/-- `hex = "0123456789abcdef"` -/
theorem hex_spec : Generated.hex =
    [0x30, 0x31, 0x32, 0x33, 0x34, 0x35, 0x36, 0x37, 0x38, 0x39, 0x61, 0x62, 0x63, 0x64, 0x65, 0x66] := by
  decide

theorem hex_length : Generated.hex.length = 16 := by decide

theorem level_constants : Generated.levelDebug = 0 ∧ Generated.levelInfo = 4 ∧ Generated.levelWarn = 8 ∧
    Generated.levelError = 12 ∧ Generated.levelFatal = 16 := by decide

/-- uncoloured full labels: `labelList[level+2]` is DEBUG / INFO / WARN / ERROR / FATAL, so
    `appendFullLevel(buf, l, false)` never panics for a valid level and writes the level's name -/
theorem labelList_full :
    fullLevel Generated.levelDebug = .ok (Json.levelName Generated.levelDebug) ∧
    fullLevel Generated.levelInfo = .ok (Json.levelName Generated.levelInfo) ∧
    fullLevel Generated.levelWarn = .ok (Json.levelName Generated.levelWarn) ∧
    fullLevel Generated.levelError = .ok (Json.levelName Generated.levelError) ∧
    fullLevel Generated.levelFatal = .ok (Json.levelName Generated.levelFatal) := ⟨rfl, rfl, rfl, rfl, rfl⟩

/-- uncoloured short labels: `labelList[level]` is `[D] [I] [W] [E] [F]` (Text/Nano handlers) -/
theorem labelList_short :
    Generated.labelList[0]? = some [0x5B, 0x44, 0x5D] ∧ Generated.labelList[4]? = some [0x5B, 0x49, 0x5D] ∧
    Generated.labelList[8]? = some [0x5B, 0x57, 0x5D] ∧ Generated.labelList[12]? = some [0x5B, 0x45, 0x5D] ∧
    Generated.labelList[16]? = some [0x5B, 0x46, 0x5D] := by decide

/-- `Spec.validLevel` is exactly the set of the five constants -/
theorem validLevel_iff (l : Int) : Json.validLevel l = true ↔
    l ∈ [Generated.levelDebug, Generated.levelInfo, Generated.levelWarn, Generated.levelError,
         Generated.levelFatal] := by
  simp [Json.validLevel, Generated.levelDebug, Generated.levelInfo, Generated.levelWarn,
    Generated.levelError, Generated.levelFatal]
  omega

/-- the extractor of this area recognised the source as it is on this run (a refusal removes `ok`) -/
theorem extractor_ok : Glb.Generated.StatusLogger.ok = () := rfl

end Glb.Tie.Logger
