/-
  Regenerated tie for C16: the literals read from /repo/util/strutil/strutil.go are the ones the
  theorems need.  Re-proved by `decide` on every run; a changed literal breaks this file.
-/
import Glb.Generated.StatusStrutil
import Glb.Proofs.Strutil

namespace Glb.Tie.Strutil
open Glb.Strutil Glb.PosixWords

/-- `"'" + …` -/
theorem prefix_eq : Generated.shellEscapePrefix = [39] := by decide
/-- `… + "'"` -/
theorem suffix_eq : Generated.shellEscapeSuffix = [39] := by decide
/-- the replaced string is exactly one single quote (in particular not empty) -/
theorem old_eq : Generated.shellEscapeOld = [39] := by decide
/-- every occurrence is replaced -/
theorem count_eq : Generated.shellEscapeCount = -1 := by decide

/-- With the literals of the source, `shellEscapeWith r s = ' ++ (s with every ' replaced by r) ++ '`. -/
theorem shellEscapeWith_eq (r s : Bytes) :
    shellEscapeWith r s = [39] ++ quoteEach r s ++ [39] := by
  rw [shellEscapeWith, prefix_eq, suffix_eq, old_eq, count_eq, shellEscapeGen,
    replaceGo_quote r (-1) (by decide)]

/-- The replacement literal (`'"'"'` in the pinned source) closes the quotation, contributes one
    literal quote and reopens the quotation: decided by running the lexer on it. -/
theorem repl_check : quoteNeutralCheck Generated.shellEscapeNew = true := by decide

theorem repl_neutral : QuoteNeutral Generated.shellEscapeNew :=
  quoteNeutral_of_check _ repl_check

/- ShellEscapeExceptTilde tests for an unquoted-safe `~/`, keeps exactly what it tested for, and
   slices off exactly its length (so `s[2:]` cannot panic and nothing is lost or duplicated). -/
theorem tilde_prefix_eq : Generated.tildePrefix = [126, 47] := by decide
theorem tilde_keep_eq : Generated.tildeKeep = Generated.tildePrefix := by decide
theorem tilde_slice_eq : Generated.tildeSliceLow = Generated.tildePrefix.length := by decide

/-- the extractor of this area recognised the source as it is on this run (a refusal removes `ok`) -/
theorem extractor_ok : Glb.Generated.StatusStrutil.ok = () := rfl

end Glb.Tie.Strutil
