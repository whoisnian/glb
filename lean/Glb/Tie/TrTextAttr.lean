/-
  Tie of the TRANSLATED, recursive `appendTextAttr` (/repo/logger/text_handler.go:150, regenerated into
  Glb/Generated/TrTextAttr.lean on every run) to the hand model `Glb.TextHandler.appendTextAttr` /
  `appendTextGroup` (Glb/Model/TextHandler.lean) the C13 property theorems are about.

      appendTextAttr_eq : depth a ≤ fuel →
        Tr.Logger.appendTextAttr fuel P buf a pfx colorful = .ok (TextHandler.appendTextAttr P buf pfx a)

  for every attribute tree `a`, every record `P` of library functions, all buffers (full strength:
  with fuel at least the nesting depth of the tree the translated code never panics; in particular
  the bounds-checked reslice `(*prefix)[:ori]` never fails, because the prefix buffer a call returns
  is never shorter than the one it was given: `attr_len` / `group_len`).

  Structure: induction on the fuel (the translated function recurses on it); for a group the
  translated `range` loop from index `i` in state `(i, prefix, buf)` is the model's
  `appendTextGroup P buf prefix ori key (as.drop i)` (`loop_eq`).
-/
import Glb.Go.Lemmas
import Glb.Go.LemmasJsonString
import Glb.Generated.TrTextAttr
import Glb.Model.TextHandler
import Glb.Tie.TrText

namespace Glb.Tie.TrTextAttr
open Glb.Go Glb.TextHandler

mutual
def depth : Attr → Nat
  | .leaf _ _ => 1
  | .group _ as => 1 + depthList as
def depthList : List Attr → Nat
  | [] => 0
  | a :: rest => max (depth a) (depthList rest)
end

theorem depth_pos (a : Attr) : 1 ≤ depth a := by
  cases a <;> simp [depth]

theorem depth_mem (as : List Attr) (a : Attr) (h : a ∈ as) : depth a ≤ depthList as := by
  induction as with
  | nil => cases h
  | cons b rest ih =>
    rcases List.mem_cons.mp h with rfl | h
    · exact Nat.le_max_left _ _
    · exact Nat.le_trans (ih h) (Nat.le_max_right _ _)

mutual
/-- the prefix buffer a call of `appendTextAttr` leaves is at least as long as the one passed in: what keeps
    Go's reslice `(*prefix)[:ori]` in bounds -/
theorem attr_len (P : Std) : ∀ (a : Attr) (buf pfx : Bytes),
    pfx.length ≤ (appendTextAttr P buf pfx a).2.length
  | .leaf key v, buf, pfx => by
    simp only [appendTextAttr]
    split <;> simp
  | .group key as, buf, pfx => group_len P as buf pfx pfx.length key (Nat.le_refl _)
theorem group_len (P : Std) : ∀ (as : List Attr) (buf pfx : Bytes) (ori : Nat) (key : Bytes),
    ori ≤ pfx.length → ori ≤ (appendTextGroup P buf pfx ori key as).2.length
  | [], buf, pfx, ori, key, h => by simpa [appendTextGroup] using h
  | a :: rest, buf, pfx, ori, key, h => by
    apply group_len P rest
    refine Nat.le_trans ?_ (attr_len P a _ _)
    split <;> split <;> simp <;> omega
end

set_option linter.unusedSimpArgs false in
/-- `appendTextAttr` of logger/text_handler.go, as translated, is the model's `appendTextAttr`
    (group case: `appendTextGroup`), for every attribute tree, library record and pair of buffers,
    whenever the fuel covers the nesting depth of the tree: no panic (the reslice `(*prefix)[:ori]`
    is always in bounds), no fuel exhaustion in the recursion or in the `range` loops.  The translated
    function returns `(buf, prefix buffer)` as the call leaves them.  `colorful` is only threaded
    through (the translator's `valueAppend` is the colour-off `appendTextValue`). -/
theorem appendTextAttr_eq (fuel : Nat) (P : Std) (buf pfx : Bytes) (a : Attr) (colorful : Bool)
    (h : depth a ≤ fuel) :
    Glb.Tr.Logger.appendTextAttr fuel P buf a pfx colorful
      = .ok (Glb.TextHandler.appendTextAttr P buf pfx a) := by
  induction fuel generalizing buf pfx a with
  | zero => have := depth_pos a; omega
  | succ n ih =>
    unfold Glb.Tr.Logger.appendTextAttr
    cases a with
    | leaf key v =>
      simp only [LibTextAttr.isGroup, LibTextAttr.keyOf, LibTextAttr.valueAppend,
        Glb.Tie.TrText.appendTextString_eq, Glb.TextHandler.appendTextAttr, toStr]
      by_cases hp : pfx.length > 0 <;> simp [hp, bind, Except.bind, pure, Except.pure]
    | group key as =>
      have hd : depthList as ≤ n := by simp only [depth] at h; omega
      simp only [LibTextAttr.isGroup, LibTextAttr.keyOf, LibTextAttr.groupOf, BEq.rfl, if_true]
      rw [loop_eq (σ := Int × Bytes × Bytes) (ρ := Bytes × Bytes)
        (Inv := fun st => ∃ i : Nat, st.1 = i ∧ i ≤ as.length ∧ pfx.length ≤ st.2.1.length)
        (measure := fun st => as.length - st.1.toNat)
        (model := fun st => .ok (.inl ((as.length : Int),
            (appendTextGroup P st.2.2 st.2.1 pfx.length key (as.drop st.1.toNat)).swap)))]
      · simp only [bind, Except.bind, pure, Except.pure, Glb.TextHandler.appendTextAttr,
          Int.toNat_zero, List.drop_zero, Prod.fst_swap, Prod.snd_swap]
      · rintro ⟨_, p, b⟩ ⟨i, rfl, hil, hpl⟩
        dsimp only at hpl
        simp only [StepOK, pure, Except.pure, Int.toNat_natCast, len_eq]
        cases hdr : as.drop i with
        | nil =>
          obtain rfl : i = as.length := Nat.le_antisymm hil (length_of_drop_nil as i hdr)
          simp [appendTextGroup]
        | cons aa rest =>
          have hn := lt_length_of_drop_cons as i aa rest hdr
          have haa : depth aa ≤ n :=
            Nat.le_trans (depth_mem as aa (List.mem_of_mem_drop (hdr ▸ List.mem_cons_self))) hd
          simp only [Int.ofNat_lt, hn, idx_drop as i aa rest hdr, bind, Except.bind,
            sliceTo_ok p pfx.length hpl, appendTextGroup]
          by_cases hk : key.length > 0 <;> by_cases ho : pfx.length > 0
          all_goals
            simp only [hk, ho, ih _ _ aa haa, decide_true, decide_false, Bool.true_and, Bool.false_and,
              if_true, if_false, Bool.false_eq_true, Int.toNat_natCast_add_one,
              drop_succ_of_drop as i aa rest hdr, Int.natCast_pos]
            refine ⟨⟨i + 1, rfl, hn, Nat.le_trans ?_ (attr_len P aa _ _)⟩, by omega, trivial⟩
            simp only [List.length_append, List.length_take]
            omega
      · exact ⟨0, rfl, Nat.zero_le _, Nat.le_refl _⟩
      · simp only [len_eq]; omega

/-- the least sufficient fuel: the nesting depth of the tree itself -/
theorem appendTextAttr_eq_depth (P : Std) (buf pfx : Bytes) (a : Attr) (colorful : Bool) :
    Glb.Tr.Logger.appendTextAttr (depth a) P buf a pfx colorful
      = .ok (Glb.TextHandler.appendTextAttr P buf pfx a) :=
  appendTextAttr_eq (depth a) P buf pfx a colorful (Nat.le_refl _)

/-- the translated call never shortens the prefix buffer (what makes Go's `(*prefix)[:ori]` safe) -/
theorem appendTextAttr_prefix_len (fuel : Nat) (P : Std) (buf pfx : Bytes) (a : Attr) (colorful : Bool)
    (h : depth a ≤ fuel) :
    ∃ r, Glb.Tr.Logger.appendTextAttr fuel P buf a pfx colorful = .ok r ∧ pfx.length ≤ r.2.length :=
  ⟨_, appendTextAttr_eq fuel P buf pfx a colorful h, attr_len P a buf pfx⟩

end Glb.Tie.TrTextAttr
