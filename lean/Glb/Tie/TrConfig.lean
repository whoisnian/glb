/-
  Tie of the TRANSLATED `/repo/config/config.go: parseStructFieldTag` (Glb/Generated/TrConfig.lean,
  rewritten from the Go source on every run by tools/extract/golean.go) to the hand model
  `Glb.Config.parseTag` that the C09 theorems (`tag_syntaxes`, `flagset_shape`, …) are about.
-/
import Glb.Go.Lemmas
import Glb.Generated.TrConfig
import Glb.Proofs.Config

namespace Glb.Tie.TrConfig
open Glb.Go
open Glb.Config (indexByte_lt)

theorem indexByte_eq (s : Bytes) (c : UInt8) :
    Lib.indexByte s c =
      match Glb.Config.indexByte s c with
      | some p => (p : Int)
      | none => -1 := by
  simp only [Lib.indexByte, indexByteFrom_eq, Glb.Config.indexByte_eq_findIdx?, Nat.zero_add]
  rfl

/-! The slices at a position found by `IndexByte`, in the forms the translated code (`sliceFrom`,
    `sliceTo`) and the model (`slice?`) write them. -/

theorem sliceFrom_succ_ok (s : Bytes) (p : Nat) (h : p < s.length) :
    sliceFrom s ((p : Int) + 1) = .ok (s.drop (p + 1)) :=
  sliceFrom_ok s (p + 1) h

theorem sliceTo_ok (s : Bytes) (p : Nat) (h : p < s.length) : sliceTo s (p : Int) = .ok (s.take p) :=
  Glb.Go.sliceTo_ok s p (Nat.le_of_lt h)

theorem slice?_succ_ok (s : Bytes) (p : Nat) (h : p < s.length) :
    Glb.slice? s (p + 1) s.length = .ok (s.drop (p + 1)) :=
  slice?_from s (p + 1) h

theorem slice?_to_ok (s : Bytes) (p : Nat) (h : p < s.length) : Glb.slice? s 0 p = .ok (s.take p) :=
  slice?_to s p (Nat.le_of_lt h)

/-- the separator search once `name` and `sep` are known: case split on the (at most two) results of
    `IndexByte`; every slice is in range because the positions come from `IndexByte` -/
local macro "split_tail " n:term:max s:term:max : tactic => `(tactic| (
  cases h1 : Glb.Config.indexByte $n $s with
  | none => by_cases hn : $n = [] <;> first | (simp [hn]; done) | simp_all
  | some p =>
    have hp := indexByte_lt $n $s p h1
    simp only [sliceFrom_succ_ok $n p hp, sliceTo_ok $n p hp, slice?_succ_ok $n p hp,
      slice?_to_ok $n p hp]
    cases h2 : Glb.Config.indexByte (List.drop (p + 1) $n) $s with
    | none => by_cases hn : List.take p $n = [] <;> simp [hn]
    | some q =>
      have hq := indexByte_lt _ $s q h2
      simp only [sliceFrom_succ_ok _ q hq, sliceTo_ok _ q hq, slice?_succ_ok _ q hq,
        slice?_to_ok _ q hq]
      by_cases hn : List.take p $n = [] <;> simp [hn]))

/-- **Tie.** The translated `parseStructFieldTag` is the model `parseTag` for every tag text, every
    field name and every lower-casing function (the result of `strings.ToLower(field.Name)` is a
    parameter of the translated function). -/
theorem parseStructFieldTag_eq (lower : Bytes → Bytes) (goName tag : Bytes) :
    Glb.Tr.Config.parseStructFieldTag tag (lower goName) = Glb.Config.parseTag lower goName tag := by
  unfold Glb.Tr.Config.parseStructFieldTag
  extract_lets empty name sep lowerName fin cont sep'
  -- `cont` is what the translated code does once `name` and `sep` are chosen
  have key : ∀ nm sp, cont () nm sp = (Glb.Config.tagSplit nm sp >>= fun r =>
      pure (if r.1 = [] then lower goName else r.1, r.2.1, r.2.2)) := by
    intro nm sp
    simp only [cont, fin, empty, lowerName, Glb.Config.tagSplit, indexByte_eq, bind, Except.bind, pure,
      Except.pure]
    split_tail nm sp
  unfold Glb.Config.parseTag
  cases tag with
  | nil => exact key [] 44
  | cons b rest =>
    have hi' : Glb.idx? (b :: rest) 0 = .ok b := rfl
    have hs' : Glb.slice? (b :: rest) 1 (b :: rest).length = .ok rest :=
      slice?_from (b :: rest) 1 (Nat.le_add_left 1 _)
    simp only [name, sep, sep', key, idx_cons_zero, sliceFrom_one, hi', hs', bind, Except.bind, pure, Except.pure]
    by_cases hb : b = 124 <;> simp [hb, Glb.Config.bar, Glb.Config.comma]

end Glb.Tie.TrConfig
