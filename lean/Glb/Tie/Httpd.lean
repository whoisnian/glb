/-
  Regenerated tie for C04/C05: the facts about `methodTagMap`, `routeParam`, `routeParamAny`
  (read from /repo/httpd/httpd.go and tree.go on every run) on which the router theorems rest.
  All keys of a `treeNode.next` map live in ONE namespace; the leading '/' of the reserved keys
  and of the method tags is what keeps them apart from path fragments (which never contain '/').
  A tag without the slash, two methods sharing a tag, or a tag equal to a reserved key breaks
  this file.  Adding a further method with a fresh "/tag" does not (only `methods_known` would
  then have to be extended, because the specification lists the methods it knows).
-/
import Glb.Generated.StatusHttpd
import Glb.Generated.Httpd
import Glb.Spec.RouteList

namespace Glb.Tie.Httpd
open Glb.Generated

theorem reserved_slash : routeParam.head? = some 47 ∧ routeParamAny.head? = some 47 := by decide

theorem reserved_distinct : routeParam ≠ routeParamAny := by decide

theorem tags_slash : ∀ e ∈ methodTagMap, e.2.head? = some 47 := by decide

theorem tags_inj : ∀ e ∈ methodTagMap, ∀ e' ∈ methodTagMap, e.2 = e'.2 → e.1 = e'.1 := by decide

theorem methods_nodup : (methodTagMap.map (·.1)).Nodup := by decide

theorem tags_not_reserved : ∀ e ∈ methodTagMap, e.2 ≠ routeParam ∧ e.2 ≠ routeParamAny := by decide

theorem methodAll_star : methodAll = RouteList.methodAll := by decide

theorem methods_known :
    (∀ e ∈ methodTagMap, e.1 ∈ RouteList.knownMethods) ∧
    (∀ m ∈ RouteList.knownMethods, m ∈ methodTagMap.map (·.1)) := by decide

/-! ### the request counter behind the Store ids (C05)

`Props/C05` counts requests in `Nat` and writes the number with `render36`.  The code counts in a
fixed-width unsigned field; the two agree as long as the counter has not wrapped, which for the
extracted width is `2^64` requests of one Mux (an explicit assumption of C05, not checkable by running).
A narrower field, another step or another base breaks this file. -/

theorem id_counter_shape :
    storeIDBits = 64 ∧ storeIDAddBits = storeIDBits ∧ storeIDStep = 1 ∧ storeIDBase = 36 := by decide

/-- below the width of the field the machine counter IS the natural number the model counts with -/
theorem id_counter_exact (n : Nat) (h : n < 2 ^ storeIDBits) : n % 2 ^ storeIDBits = n :=
  Nat.mod_eq_of_lt h

/-- the extractor of this area recognised the source as it is on this run (a refusal removes `ok`) -/
theorem extractor_ok : Glb.Generated.StatusHttpd.ok = () := rfl

end Glb.Tie.Httpd
