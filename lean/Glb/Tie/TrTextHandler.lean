/-
  Tie of the TRANSLATED `TextHandler` methods (/repo/logger/text_handler.go, regenerated into
  Glb/Generated/TrTextSource.lean and Glb/Generated/TrTextHandler.lean on every run) to the hand model
  of Glb/Model/TextHandler.lean that the C13 theorems (`text_roundtrip`) are about.  The handler state
  is the pair `(pre, gp)` = (preformatted, groupPrefix); clone/pools/lock/Write are outside the model.

      Text_WithGroup_eq   : Tr.Text_WithGroup h.pre h.groupPrefix name = .ok (withGroup h name as a pair)
      Text_WithAttrs_eq   : depthList as ≤ fuel → Tr.Text_WithAttrs fuel P h.pre h.groupPrefix as = .ok (withAttrs P h as …)
      appendTextSource_eq : Tr.appendTextSource P buf file line
                              = .ok (appendTextString P buf (trimSource file ++ ":" ++ itoa line))
      Text_Handle_exact   : -2 ≤ r.level → (Tr.Text_Handle … ).map (·.1) = handle P addSource h r
      Text_Handle_eq      : the same for ALL levels after `Except.toOption` (payload of the negative
                            level index differs: `Text_Handle_neg` / `handle_neg`)

  The `range attrs` loop (the same in `WithAttrs` and `Handle`) from index `i` in state `(i, buf)` is
  the model's `appendAttrs P buf gp (as.drop i)` (`attr_loop`); each element by `TrTextAttr.appendTextAttr_eq`.
  The source loop is the one of `appendJsonSource` (Tie/TrJson.lean); the Text model's `trimSource`
  (scan over the reversed tail) equals the JSON model's (`trimSource_text_json`).
-/
import Glb.Go.Lemmas
import Glb.Generated.TrTextHandler
import Glb.Generated.TrTextSource
import Glb.Model.TextHandler
import Glb.Tie.TrText
import Glb.Tie.TrTextAttr
import Glb.Tie.TrLevel
import Glb.Tie.TrJson

namespace Glb.Tie.TrTextHandler
open Glb.Go Glb.TextHandler Glb.Tie.TrTextAttr

/-- **Tie.** `WithGroup`: the new group prefix is `name`, or `groupPrefix ++ "." ++ name` -/
theorem Text_WithGroup_eq (h : Handler) (name : Bytes) :
    Glb.Tr.Logger.Text_WithGroup h.pre h.groupPrefix name
      = .ok ((withGroup h name).pre, (withGroup h name).groupPrefix, ()) := by
  unfold Glb.Tr.Logger.Text_WithGroup
  simp only [withGroup, pure, Except.pure]
  by_cases hg : h.groupPrefix.length = 0 <;> simp [hg]

/-- The loop `for _, a := range attrs { prefix := h.prefix(); appendTextAttr(buf, a, prefix, false) }`
    in state `(i, buf)` appends what the model's `appendAttrs` does, whenever the fuel covers the nesting
    depth; each element by `TrTextAttr.appendTextAttr_eq`. -/
theorem attr_loop {ρ : Type} (fuel : Nat) (P : Std) (gp : Bytes) (as : List Attr)
    (hf : depthList as ≤ fuel) (buf : Bytes) :
    Glb.Go.loop (ρ := ρ) ((0 : Int), buf) (Glb.Go.len as - 0 + 2).toNat
      (fun st => pure (decide (st.1 < Glb.Go.len as)))
      (fun st => do
        let a ← Glb.Go.idx as st.1
        let t ← Glb.Tr.Logger.appendTextAttr fuel P st.2 a gp false
        pure (Glb.Go.Ctl.next (st.1, t.1)))
      (fun st => pure (st.1 + 1, st.2))
    = .ok (.inl ((as.length : Int), appendAttrs P buf gp as)) := by
  rw [loop_range as (fun st => st.1) (n := 0)
    (fun rest st => .ok (.inl ((as.length : Int), appendAttrs P st.2 gp rest)))]
  · rfl
  · intro _; rfl
  · intro ⟨_, b⟩ rfl
    rfl
  · intro ⟨_, b⟩ n c rest rfl hd hc
    have hm := depth_mem as c (List.mem_of_mem_drop (hd ▸ List.mem_cons_self))
    simp only [RangeStep, hc, appendTextAttr_eq fuel P _ _ c false (Nat.le_trans hm hf), bind, Except.bind, pure,
      Except.pure, appendAttrs]
    exact ⟨trivial, trivial⟩
  · rfl
  · omega
  · simp only [len_eq]; omega

/-- **Tie.** `WithAttrs`: `preformatted` grows by the rendering of every attribute under the group
    prefix (nothing changes for an empty list), whenever the fuel covers the nesting depth; no panic. -/
theorem Text_WithAttrs_eq (fuel : Nat) (P : Std) (h : Handler) (as : List Attr)
    (hf : depthList as ≤ fuel) :
    Glb.Tr.Logger.Text_WithAttrs fuel P h.pre h.groupPrefix as
      = .ok ((withAttrs P h as).pre, (withAttrs P h as).groupPrefix, ()) := by
  unfold Glb.Tr.Logger.Text_WithAttrs
  simp only [attr_loop fuel P _ as hf]
  cases as <;> rfl

/- `appendTextSource`.  The Go loop is the one of `appendJsonSource` (`Tie/TrJson.lean`: `source_loop`, `sliceFrom_trim`); the Text model writes
the result as a scan over the reversed tail (`sourceScan`), the JSON model as an index computation (`sourceLoop`):
`trimSource_text_json` shows they are the same function. -/

/-- the Text model's scan over the reversed first `n` bytes of the tail `t` of the file name is the
    JSON model's index loop started at index `n` -/
theorem sourceScan_sourceLoop (c : UInt8) (t : Bytes) : ∀ (n : Nat) (first : Bool), n ≤ t.length →
    sourceScan (t.take n).reverse first (t.drop n)
      = t.drop (Glb.JsonHandler.sourceLoop (c :: t) n first) := by
  intro n
  induction n with
  | zero => intro first _; simp [sourceScan, Glb.JsonHandler.sourceLoop]
  | succ k ih =>
    intro first hk
    have hk' : k < t.length := by omega
    have hget : (c :: t)[k + 1]? = some t[k] := by
      simp [List.getElem?_eq_getElem hk']
    rw [List.take_succ_eq_append_getElem hk', List.reverse_append]
    simp only [List.reverse_cons, List.reverse_nil, List.nil_append, List.cons_append, sourceScan,
      Glb.JsonHandler.sourceLoop, hget, Option.some_beq_some, List.getElem_cons_drop hk']
    by_cases hc : (t[k] == 0x2f) = true
    · cases first
      · simp only [hc]
        exact ih true (by omega)
      · simp [hc]
    · simp only [hc]
      exact ih first (by omega)

/-- the two models of `f.File[idx+1:]` agree -/
theorem trimSource_text_json (file : Bytes) :
    Glb.TextHandler.trimSource file = Glb.JsonHandler.trimSource file := by
  cases file with
  | nil => simp [Glb.TextHandler.trimSource, Glb.JsonHandler.trimSource]
  | cons c t =>
    have := sourceScan_sourceLoop c t t.length false (Nat.le_refl _)
    simp only [List.take_length, List.drop_length] at this
    simp [Glb.TextHandler.trimSource, Glb.JsonHandler.trimSource, this]

/-- **Tie.** `appendTextSource`, as translated, hands `trimSource file ++ ":" ++ itoa line` to
    `appendTextString`, for every file name and line number; it never panics. -/
theorem appendTextSource_eq (P : Std) (buf file : Bytes) (line : Int) :
    Glb.Tr.Logger.appendTextSource P buf file line
      = .ok (Glb.TextHandler.appendTextString P buf
          (Glb.TextHandler.trimSource file ++ [0x3a] ++ Glb.Go.Lib.itoa line)) := by
  unfold Glb.Tr.Logger.appendTextSource
  simp only [Glb.Tie.TrJson.source_loop]
  simp only [bind, Except.bind, pure, Except.pure, Glb.Tie.TrJson.sliceFrom_trim, ToInt.toInt, id, add_bytes,
    Glb.Tie.TrText.appendTextString_eq, trimSource_text_json]

/- `Handle`.  Payload convention (as in Tie/TrLevel.lean): for `r.level < -2` both sides panic in the level-table
lookup `labelList[l+2]`, but the payload names differ (translated `idxI`: `.other "index<0"`, model
`TextHandler.fullLevel`: `.indexRange 0 len`), see `Text_Handle_neg` / `handle_neg`.  So:
  * `Text_Handle_exact` : exact equality (out-of-range panic for `17 < level` included) under `-2 ≤ r.level`;
  * `Text_Handle_eq`    : for ALL levels, equality after `Except.toOption`.
`r.line` is the decimal text of the frame's line number (`hline`), the translated function gets the
number itself.  The buffer starts empty (`newBuffer()`); the result is the byte string passed to the
single `out.Write`. -/

/-- **Tie.** `Handle` (exact, `-2 ≤ level`): the bytes written, or the out-of-range panic of the level
    table for `17 < level`, are the model's `handle`. -/
theorem Text_Handle_exact (fuel : Nat) (P : Std) (addSource : Bool) (h : Handler) (r : Record)
    (lineNo : Int) (hline : r.line = Glb.Go.Lib.itoa lineNo) (hf : depthList r.attrs ≤ fuel)
    (hl : -2 ≤ r.level) :
    (Glb.Tr.Logger.Text_Handle fuel P [] addSource h.pre h.groupPrefix r.time r.level r.file lineNo
        r.msg r.attrs).map (·.1) = handle P addSource h r := by
  obtain ⟨time, level, file, line, msg, as⟩ := r
  subst hline
  unfold Glb.Tr.Logger.Text_Handle handle
  dsimp only
  rw [Glb.Tie.TrLevel.appendFullLevel_text_exact _ _ hl]
  cases hfl : fullLevel level with
  | error e => simp [Except.map, bind, Except.bind]
  | ok lab =>
    simp only [attr_loop fuel P _ as hf]
    simp only [appendTextSource_eq, Glb.Tie.TrText.appendTextString_eq, sourceText, Except.map, bind, Except.bind, pure, Except.pure]
    -- the two `len > 0` guards only skip appending nothing (`TextProofs.ite_length_pos`)
    cases addSource <;> by_cases hp : h.pre.length > 0 <;> by_cases has : as.length > 0 <;> simp [hp, has]

/-- for `level < -2` the translated code panics with the translator's negative-index payload, the model
    (`handle_neg`) with its own, `.indexRange 0 len`: the reason `Text_Handle_exact` needs `-2 ≤ level` -/
theorem Text_Handle_neg (fuel : Nat) (P : Std) (addSource : Bool) (pre gp time : Bytes) (level : Int)
    (file : Bytes) (lineNo : Int) (msg : Bytes) (as : List Attr) (hl : level < -2) :
    Glb.Tr.Logger.Text_Handle fuel P [] addSource pre gp time level file lineNo msg as
      = .error (.other "index<0") := by
  unfold Glb.Tr.Logger.Text_Handle
  simp only [Glb.Tie.TrLevel.appendFullLevel_idx, idxI_neg _ _ (show level + 2 < 0 by omega)]
  rfl

theorem handle_neg (P : Std) (addSource : Bool) (h : Handler) (r : Record) (hl : r.level < -2) :
    handle P addSource h r = .error (.indexRange 0 Glb.Generated.labelList.length) := by
  have hneg : r.level + 2 < 0 := by omega
  unfold handle fullLevel
  simp only [hneg, if_true, bind, Except.bind]

/-- **Tie.** `Handle` (all levels): ok-results agree and one side panics iff the other does
    (equality after `Except.toOption`). -/
theorem Text_Handle_eq (fuel : Nat) (P : Std) (addSource : Bool) (h : Handler) (r : Record)
    (lineNo : Int) (hline : r.line = Glb.Go.Lib.itoa lineNo) (hf : depthList r.attrs ≤ fuel) :
    ((Glb.Tr.Logger.Text_Handle fuel P [] addSource h.pre h.groupPrefix r.time r.level r.file lineNo
        r.msg r.attrs).map (·.1)).toOption = (handle P addSource h r).toOption := by
  by_cases hl : -2 ≤ r.level
  · rw [Text_Handle_exact fuel P addSource h r lineNo hline hf hl]
  · rw [Text_Handle_neg _ _ _ _ _ _ _ _ _ _ _ (Int.not_le.mp hl), handle_neg _ _ _ _ (Int.not_le.mp hl)]
    rfl

/-- the least sufficient fuel: the nesting depth of the record's attributes -/
theorem Text_Handle_exact_depth (P : Std) (addSource : Bool) (h : Handler) (r : Record)
    (lineNo : Int) (hline : r.line = Glb.Go.Lib.itoa lineNo) (hl : -2 ≤ r.level) :
    (Glb.Tr.Logger.Text_Handle (depthList r.attrs) P [] addSource h.pre h.groupPrefix r.time r.level
        r.file lineNo r.msg r.attrs).map (·.1) = handle P addSource h r :=
  Text_Handle_exact _ P addSource h r lineNo hline (Nat.le_refl _) hl

end Glb.Tie.TrTextHandler
