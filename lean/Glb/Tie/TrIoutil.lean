/-
  Specification of the TRANSLATED `ReadRand` (`/repo/util/ioutil/ioutil.go`,
  Glb/Generated/TrIoutil.lean, rewritten from the Go source on every run by tools/extract/golean.go).
  There is no hand model for this function: the specification (`leBytes`, `stream`, `fill`) is
  written here.  `draws` = the successive results of `r.Uint64()` (an exhausted list yields 0).
-/
import Glb.Go.Lemmas
import Glb.Go.LemmasJsonString
import Glb.Generated.TrIoutil

namespace Glb.Tie.TrIoutil
open Glb.Go Glb.Tr.Ioutil

def leBytes (w : UInt64) : Bytes :=
  [w.toUInt8, (w >>> 8).toUInt8, (w >>> 16).toUInt8, (w >>> 24).toUInt8,
   (w >>> 32).toUInt8, (w >>> 40).toUInt8, (w >>> 48).toUInt8, (w >>> 56).toUInt8]

/-- byte `i` of the concatenation of `leBytes` of the draws (an exhausted source draws 0):
    byte `i % 8` (little-endian) of draw `i / 8` -/
def stream (draws : List UInt64) (i : Nat) : UInt8 :=
  (leBytes (draws.getD (i / 8) 0)).getD (i % 8) 0

def fill (draws : List UInt64) (n : Nat) : Bytes := (List.range n).map (stream draws)

@[simp] theorem fill_length (draws : List UInt64) (n : Nat) : (fill draws n).length = n := by
  simp [fill]

theorem fill_succ (draws : List UInt64) (n : Nat) :
    fill draws (n + 1) = fill draws n ++ [stream draws n] := by
  simp [fill, List.range_succ]

theorem fill_getElem? (draws : List UInt64) (n i : Nat) (h : i < n) :
    (fill draws n)[i]? = some (stream draws i) := by
  simp [fill, h]

private theorem leBytes_getD (w : UInt64) (j : Nat) (hj : j < 8) :
    ((leBytes w).getD j 0).toNat = (w.toNat >>> (8 * j)) % 256 := by
  match j, hj with
  | 0, _ | 1, _ | 2, _ | 3, _ | 4, _ | 5, _ | 6, _ | 7, _ => simp [leBytes, UInt64.toNat_shiftRight]
  | n + 8, h => omega

theorem stream_toNat (draws : List UInt64) (i : Nat) :
    (stream draws i).toNat = ((draws.getD (i / 8) 0).toNat >>> (8 * (i % 8))) % 256 := by
  rw [stream, leBytes_getD _ _ (Nat.mod_lt _ (by omega))]

/-- the loop invariant of `ReadRand`: `k` bytes are written, `pos` bytes of the current draw are left
    in `val`; what the buffer holds from `k` on plays no part -/
private def RInv (draws : List UInt64) (len : Nat) : UInt64 × List UInt64 × UInt64 × Bytes × Int → Prop
  | (val, ds, pos, b, n) => ∃ k : Nat, n = (k : Int) ∧ k ≤ len ∧ b.length = len ∧
    b.take k = fill draws k ∧
    ds = draws.drop ((k + 7) / 8) ∧
    pos.toNat = (8 - k % 8) % 8 ∧
    (k % 8 ≠ 0 → val.toNat = (draws.getD (k / 8) 0).toNat >>> (8 * (k % 8)))

/-- writing byte `k` from a word `v` that holds what is left of draw `k / 8`, with `p` bytes left -/
private theorem RInv_next (draws : List UInt64) (b : Bytes) (k : Nat) (hk : k < b.length)
    (hb : b.take k = fill draws k) (v p : UInt64)
    (hv : v.toNat = (draws.getD (k / 8) 0).toNat >>> (8 * (k % 8))) (hp : p.toNat = 8 - k % 8) :
    RInv draws b.length (shr v 8, draws.drop (k / 8 + 1), p - 1, b.set k (ToByte.toByte v), (k : Int) + 1) := by
  refine ⟨k + 1, rfl, hk, List.length_set, ?_, ?_, ?_, fun h8 => ?_⟩
  · have hbyte : ToByte.toByte v = stream draws k := by
      apply UInt8.toNat_inj.mp
      rw [stream_toNat, ← hv]; rfl
    rw [List.take_add_one, List.take_set_of_le (Nat.le_refl k), List.getElem?_set_self hk, hb, hbyte, fill_succ]
    rfl
  · rw [show (k + 1 + 7) / 8 = k / 8 + 1 by omega]
  · show (p - 1).toNat = _
    rw [UInt64.toNat_sub, UInt64.toNat_one, hp]; omega
  · show (v >>> 8).toNat = _
    rw [UInt64.toNat_shiftRight, hv, ← Nat.shiftRight_add, show (k + 1) / 8 = k / 8 by omega,
      show (k + 1) % 8 = k % 8 + 1 by omega]
    rfl

theorem ReadRand_spec (draws : List UInt64) (buf : Bytes) :
    ReadRand draws buf =
      .ok (fill draws buf.length, draws.drop ((buf.length + 7) / 8), (buf.length : Int), false) := by
  unfold ReadRand
  dsimp only
  refine loop_inv_bind (RInv draws buf.length)
    (fun st => ((buf.length : Int) - st.2.2.2.2).toNat) ?_ ?_ ?_ ?_
  · intro ⟨val, ds, pos, b, n⟩ ⟨k, hn, hk, hlen, hb, hds, hpos, hval⟩
    subst hn hds
    rw [← hlen]
    simp only [StepInv, pure, Except.pure, len_eq, bind, Except.bind]
    by_cases hlt : (k : Int) < b.length
    · have hkb : k < b.length := by omega
      simp only [hlt, decide_true, fun v => set_ok b k v hkb, beq_iff_eq]
      by_cases hp0 : pos = 0
      · have hk8 : k % 8 = 0 := by
          rw [hp0] at hpos; have : (0 : UInt64).toNat = 0 := rfl; omega
        rw [if_pos hp0, show (k + 7) / 8 = k / 8 by omega, List.tail_drop]
        refine ⟨RInv_next draws b k hkb hb _ 8 ?_ (by rw [hk8]; rfl), by dsimp only; omega⟩
        rw [hk8, List.headD_eq_head?_getD, List.head?_drop, List.getD_eq_getElem?_getD]; rfl
      · have hk8 : k % 8 ≠ 0 := by
          intro h; rw [h] at hpos; exact hp0 (UInt64.toNat_inj.mp hpos)
        rw [if_neg hp0, show (k + 7) / 8 = k / 8 + 1 by omega]
        exact ⟨RInv_next draws b k hkb hb val pos (hval hk8) (by omega), by dsimp only; omega⟩
    · simp only [hlt, decide_false]
  · exact ⟨0, rfl, by omega, rfl, rfl, rfl, rfl, by simp⟩
  · simp; omega
  · intro ⟨val, ds, pos, b, n⟩ ⟨k, hn, hk, hlen, hb, hds, _⟩ hc
    subst hn hds
    simp only [pure, Except.pure, len_eq, hlen] at hc
    obtain rfl : k = b.length := by
      have := of_decide_eq_false (Except.ok.inj hc)
      omega
    rw [← hlen, ← hb, List.take_length]
    rfl

/-! ### corollaries (each also says that `ReadRand` does not panic) -/

theorem ReadRand_length (draws : List UInt64) (buf : Bytes) :
    ∃ r, ReadRand draws buf = .ok r ∧ r.1.length = buf.length :=
  ⟨_, ReadRand_spec draws buf, by simp⟩

/-- the Go doc comment "It always returns len(buf) and a nil error": the `len(buf)` half -/
theorem ReadRand_n (draws : List UInt64) (buf : Bytes) :
    ∃ r, ReadRand draws buf = .ok r ∧ r.2.2.1 = (buf.length : Int) :=
  ⟨_, ReadRand_spec draws buf, rfl⟩

/-- the nil-error half of the Go doc comment -/
theorem ReadRand_nil_err (draws : List UInt64) (buf : Bytes) :
    ∃ r, ReadRand draws buf = .ok r ∧ r.2.2.2 = false :=
  ⟨_, ReadRand_spec draws buf, rfl⟩

/-- exactly ⌈len(buf)/8⌉ draws are consumed -/
theorem ReadRand_draws (draws : List UInt64) (buf : Bytes) :
    ∃ r, ReadRand draws buf = .ok r ∧ r.2.1 = draws.drop ((buf.length + 7) / 8) :=
  ⟨_, ReadRand_spec draws buf, rfl⟩

/-- every byte of `buf` is overwritten: byte `i` of the result is byte `i % 8` of draw `i / 8` -/
theorem ReadRand_byte (draws : List UInt64) (buf : Bytes) (i : Nat) (h : i < buf.length) :
    ∃ r, ReadRand draws buf = .ok r ∧ r.1[i]? = some (stream draws i) :=
  ⟨_, ReadRand_spec draws buf, fill_getElem? draws buf.length i h⟩

@[simp] theorem leBytes_length (w : UInt64) : (leBytes w).length = 8 := rfl

/-- `fill draws n` is the first `n` bytes of the concatenation of the little-endian encodings of
    the draws, the source being continued with zeros when it is exhausted -/
theorem fill_eq_take_flatMap (draws : List UInt64) (n : Nat) :
    fill draws n = ((draws ++ List.replicate n 0).flatMap leBytes).take n := by
  apply List.ext_getElem?
  intro i
  by_cases hi : i < n
  · have hq : i / 8 < (draws ++ List.replicate n 0).length := by
      rw [List.length_append, List.length_replicate]; omega
    have hr : i % 8 < 8 := Nat.mod_lt _ (by omega)
    -- entry `i` of the concatenation is entry `i % 8` of block `i / 8`
    have h := congrArg (·[i % 8]?) (flatMap_block leBytes 8 leBytes_length _ (i / 8) hq)
    simp only [List.getElem?_take_of_lt hr, List.getElem?_drop, Nat.div_add_mod] at h
    -- a draw past the end of the source is 0 on both sides
    have hw : (draws ++ List.replicate n 0).getD (i / 8) 0 = draws.getD (i / 8) 0 := by
      simp only [List.getD_eq_getElem?_getD, List.getElem?_append, List.getElem?_replicate]
      split
      · rfl
      · rw [List.getElem?_eq_none (by omega)]
        split <;> rfl
    rw [fill_getElem? draws n i hi, List.getElem?_take_of_lt hi, h, List.getElem_eq_getD 0, hw,
      List.getElem?_eq_getElem hr]
    exact congrArg some (List.getElem_eq_getD 0).symm
  · rw [List.getElem?_eq_none (by simp; omega), List.getElem?_eq_none (by simp; omega)]

end Glb.Tie.TrIoutil
