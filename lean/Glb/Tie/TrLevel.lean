/-
  Tie of the TRANSLATED `appendFullLevel` (Glb/Generated/TrLevel.lean, rewritten from /repo/logger/level.go
  on every run by tools/extract/golean.go) to the level-label functions of the JSON and Text models
  (`JsonHandler.fullLevel`, `TextHandler.fullLevel`): shared by the C01 and C13 handler ties, so it
  depends on level.go and the label table only.
-/
import Glb.Go.Lemmas
import Glb.Generated.TrLevel
import Glb.Model.AuxLogger
import Glb.Model.JsonHandler
import Glb.Model.NanoHandler
import Glb.Model.TextHandler
import Glb.Spec.Json

namespace Glb.Tie.TrLevel
open Glb.Go

/-!
`Glb.Go.idxI` / `Glb.Go.slice` and the models' own `idxI?` / `sliceI?` panic on exactly the same
inputs, but the payload of the panic for a NEGATIVE index differs (`.other "index<0"` vs
`.other "index out of range (negative)"`, `.other "slice<0"` vs `.other "slice bounds out of range
(negative)"`).  So every comparison below comes in two forms:
  * `…_eq` (`…_toOption` for `idxI` and `slice`): for ALL inputs, equality after `Except.toOption`
                 (ok-results agree, and one side errs iff the other errs);
  * `…_exact`  : exact equality (payloads included) whenever no negative index is formed. -/

theorem toOption_bind_none {α β} {x : M α} (f : α → M β) (hx : x.toOption = none) :
    (x >>= f).toOption = none := by
  cases x <;> simp_all [Except.toOption, bind, Except.bind]

theorem toOption_map_none {α β} {x : M α} (f : α → β) (hx : x.toOption = none) :
    (x.map f).toOption = none := by
  cases x <;> simp_all [Except.toOption, Except.map]

/-- `idxI` against any model that names the panic of a negative index `e` -/
theorem idxI_neg {α} (s : List α) (i : Int) (e : GoPanic) :
    (idxI s i).toOption = (if i < 0 then Except.error e else Glb.idx? s i.toNat).toOption ∧
    (0 ≤ i → idxI s i = if i < 0 then .error e else Glb.idx? s i.toNat) := by
  unfold idxI
  by_cases h : 0 ≤ i
  · simp [h, show ¬ i < 0 by omega]
  · simp [h, show i < 0 by omega, Except.toOption]

theorem idxI_toOption (s : Bytes) (i : Int) :
    (idxI s i).toOption = (Glb.Aux.DateTime.idxI? s i).toOption :=
  (idxI_neg s i _).1

theorem idxI_exact (s : Bytes) (i : Int) (h : 0 ≤ i) :
    idxI s i = Glb.Aux.DateTime.idxI? s i :=
  (idxI_neg s i _).2 h

theorem slice_toOption (s : Bytes) (lo hi : Int) :
    (slice s lo hi).toOption = (Glb.Aux.DateTime.sliceI? s lo hi).toOption := by
  unfold slice Glb.Aux.DateTime.sliceI?
  by_cases h : 0 ≤ lo ∧ 0 ≤ hi
  · have h' : ¬ (lo < 0 ∨ hi < 0) := by omega
    simp [h, h']
  · have h' : lo < 0 ∨ hi < 0 := by omega
    simp [h, h', Except.toOption]

theorem slice_exact (s : Bytes) (lo hi : Int) (h : 0 ≤ lo) (h2 : 0 ≤ hi) :
    slice s lo hi = Glb.Aux.DateTime.sliceI? s lo hi := by
  have h' : ¬ (lo < 0 ∨ hi < 0) := by omega
  simp [slice, Glb.Aux.DateTime.sliceI?, h, h2, h']

/-!
`appendFullLevel`, colour off.  The models (`JsonHandler.fullLevel`, `TextHandler.fullLevel`) return the
label; the translated function returns `buf ++ label`.  Payloads differ only for a negative index
(`l + 2 < 0`); the `…_exact` forms include the out-of-range panics above the table. -/

theorem bind_pure_eq_map {α β} (a : M α) (f : α → β) :
    (a >>= fun x => pure (f x)) = Except.map f a := by
  cases a <;> rfl

theorem map_toOption {α β} {a a' : M α} (f : α → β) (h : a.toOption = a'.toOption) :
    (a.map f).toOption = (a'.map f).toOption := by
  cases a <;> cases a' <;> simp_all [Except.toOption, Except.map]

/-- colour off, the translated `appendFullLevel` is the one index expression `labelList[l+2]` -/
theorem appendFullLevel_idx (buf : Bytes) (l : Int) :
    Glb.Tr.Logger.appendFullLevel buf l false
      = Except.map (fun x => buf ++ x) (idxI Glb.Generated.labelList (l + 2)) := by
  unfold Glb.Tr.Logger.appendFullLevel
  simp only [idx_int, Bool.false_eq_true, if_false, bind_assoc, pure_bind]
  exact bind_pure_eq_map _ _

theorem appendFullLevel_eq (buf : Bytes) (l : Int) :
    (Glb.Tr.Logger.appendFullLevel buf l false).toOption
      = (Except.map (fun x => buf ++ x) (Glb.JsonHandler.fullLevel l)).toOption := by
  rw [appendFullLevel_idx]
  exact map_toOption _ (idxI_neg _ _ _).1

theorem appendFullLevel_exact (buf : Bytes) (l : Int) (h : -2 ≤ l) :
    Glb.Tr.Logger.appendFullLevel buf l false
      = Except.map (fun x => buf ++ x) (Glb.JsonHandler.fullLevel l) := by
  rw [appendFullLevel_idx, (idxI_neg _ _ _).2 (by omega)]
  rfl

/-- `TextHandler.fullLevel` has a third payload for the negative index (`.indexRange 0 len`) -/
theorem appendFullLevel_text_eq (buf : Bytes) (l : Int) :
    (Glb.Tr.Logger.appendFullLevel buf l false).toOption
      = (Except.map (fun x => buf ++ x) (Glb.TextHandler.fullLevel l)).toOption := by
  rw [appendFullLevel_idx]
  exact map_toOption _ (idxI_neg _ _ _).1

theorem appendFullLevel_text_exact (buf : Bytes) (l : Int) (h : -2 ≤ l) :
    Glb.Tr.Logger.appendFullLevel buf l false
      = Except.map (fun x => buf ++ x) (Glb.TextHandler.fullLevel l) := by
  rw [appendFullLevel_idx, (idxI_neg _ _ _).2 (by omega)]
  rfl

/-- colour off, valid level: the level's name (`Json.levelName`) is appended, no panic -/
theorem appendFullLevel_valid (buf : Bytes) (l : Int) (h : l = 0 ∨ l = 4 ∨ l = 8 ∨ l = 12 ∨ l = 16) :
    Glb.Tr.Logger.appendFullLevel buf l false = .ok (buf ++ Glb.Json.levelName l) := by
  rw [appendFullLevel_exact buf l (by omega)]
  rcases h with h | h | h | h | h <;> subst h <;> rfl

theorem appendFullLevel_debug (buf : Bytes) :
    Glb.Tr.Logger.appendFullLevel buf Glb.Generated.levelDebug false
      = .ok (buf ++ [0x44, 0x45, 0x42, 0x55, 0x47]) :=   -- DEBUG
  appendFullLevel_valid buf 0 (by omega)
theorem appendFullLevel_info (buf : Bytes) :
    Glb.Tr.Logger.appendFullLevel buf Glb.Generated.levelInfo false
      = .ok (buf ++ [0x49, 0x4E, 0x46, 0x4F]) :=         -- INFO
  appendFullLevel_valid buf 4 (by omega)
theorem appendFullLevel_warn (buf : Bytes) :
    Glb.Tr.Logger.appendFullLevel buf Glb.Generated.levelWarn false
      = .ok (buf ++ [0x57, 0x41, 0x52, 0x4E]) :=         -- WARN
  appendFullLevel_valid buf 8 (by omega)
theorem appendFullLevel_error (buf : Bytes) :
    Glb.Tr.Logger.appendFullLevel buf Glb.Generated.levelError false
      = .ok (buf ++ [0x45, 0x52, 0x52, 0x4F, 0x52]) :=   -- ERROR
  appendFullLevel_valid buf 12 (by omega)
theorem appendFullLevel_fatal (buf : Bytes) :
    Glb.Tr.Logger.appendFullLevel buf Glb.Generated.levelFatal false
      = .ok (buf ++ [0x46, 0x41, 0x54, 0x41, 0x4C]) :=   -- FATAL
  appendFullLevel_valid buf 16 (by omega)

end Glb.Tie.TrLevel
