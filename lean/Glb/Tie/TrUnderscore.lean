/-
  Tie of the TRANSLATED `strutil.Underscore` (Glb/Generated/TrUnderscore.lean, rewritten from
  /repo/util/strutil/strutil.go on every run by tools/extract/golean.go) to the hand model
  `Glb.Config.underscore` that the C09 theorems (`env_key`, `flagset_shape`, `priority`) use for the
  environment-variable name of a flag: translated function = model, for every byte string.
-/
import Glb.Go.Lemmas
import Glb.Generated.TrUnderscore
import Glb.Model.Config

namespace Glb.Tie.TrUnderscore
open Glb.Go Glb.Tr.Strutil
open Glb.Config (Last isLower isUpper isDigit underscoreGo)

/-- Go's `last` (an int constant 0..3) as the model's enumeration; total, so that the loop needs no
    invariant about the range of `last` -/
def lastOf (l : Int) : Last :=
  if l = 1 then .upperLetter else if l = 2 then .lowerLetter else if l = 3 then .notAlphanum
  else .initial

/- the two tests the Go code makes on `last`, for every `Int` -/
theorem beq_lower (l : Int) : (l == 2) = (lastOf l == .lowerLetter) := by grind [lastOf]

theorem beq_notAlphanum (l : Int) : (l == 3) = (lastOf l == .notAlphanum) := by grind [lastOf]

/-- the value of Underscore's `last` variable when its loop ends (not used by the code after the
    loop, needed only to name the loop's final state) -/
def lastAfter : Int → Bytes → Int
  | l, [] => l
  | _, c :: rest =>
    lastAfter (if isLower c then 2 else if isUpper c then 1 else if isDigit c then 0 else 3) rest

/-- Go's `len(buf) > 0 && i+1 < len(s) && 'a' <= s[i+1] && s[i+1] <= 'z'` (which evaluates `s[i+1]`
    twice) is the model's look at the head of the rest -/
theorem lookahead_eq (s : Bytes) (n : Nat) (rest : Bytes) (ne : Bool) (h : s.drop (n + 1) = rest) :
    (do let t4 ← (do if (ne && decide ((n : Int) + 1 < len s)) then
                      (do let t2 ← idx s ((n : Int) + 1); pure (decide (97 ≤ t2))) else pure false)
        if t4 then (do let t3 ← idx s ((n : Int) + 1); pure (decide (t3 ≤ 122))) else pure false) =
      pure (ne && match (generalizing := false) rest with
                  | d :: _ => isLower d
                  | [] => false) := by
  cases ne
  · rfl
  · cases rest with
    | nil =>
      have := length_of_drop_nil s (n + 1) h
      have hlt : ¬ ((n : Int) + 1 < len s) := by simp only [len]; omega
      simp only [hlt, decide_false, Bool.and_false]; rfl
    | cons d r =>
      have := lt_length_of_drop_cons s (n + 1) d r h
      have hlt : (n : Int) + 1 < len s := by simp only [len]; omega
      have hd : idx s ((n : Int) + 1) = .ok d := idx_drop s (n + 1) d r h
      simp only [hlt, hd, isLower, decide_true, Bool.and_true, if_true, bind, Except.bind, pure,
        Except.pure]
      cases decide (97 ≤ d) <;> rfl

theorem Underscore_eq (s : Bytes) (upper : Bool) :
    Underscore s upper = .ok (Glb.Config.underscore s upper) := by
  unfold Underscore
  dsimp only
  rw [loop_range s (fun st => st.2.2) (n := 0) (fun l st => .ok (.inl
      (st.1 ++ underscoreGo upper (lastOf st.2.1) (decide (len st.1 > 0)) l,
       lastAfter st.2.1 l, len s)))]
  · simp [bind, Except.bind, pure, Except.pure, Glb.Config.underscore, Glb.Go.toStr, lastOf]
  · intro _; rfl
  · intro ⟨buf, last, i⟩ hi
    dsimp only at hi
    simp [underscoreGo, lastAfter, hi]
  · intro ⟨buf, last, i⟩ n c rest hi hd hc
    dsimp only at hi
    subst hi
    have hrest := drop_succ_of_drop s n c rest hd
    -- the look-ahead first: unfolding `bind` would take the left side of `lookahead_eq` apart
    simp only [RangeStep, lookahead_eq s n rest _ hrest]
    simp only [hc, bind, Except.bind, pure, Except.pure, underscoreGo, lastAfter, beq_notAlphanum,
      beq_lower, Glb.Config.underscoreByte]
    -- the tests of the `if`s get names, so that `cases` decides them in the code and in the model
    -- at once; `B` is the look-ahead
    generalize lastOf last = L
    generalize (decide (len buf > 0) && L == .notAlphanum) = A
    generalize (decide (len buf > 0) && (L == .lowerLetter || L == .notAlphanum)) = A'
    generalize (decide (len buf > 0) && _) = B
    simp only [isLower, isUpper, isDigit]
    -- `Int.add_pos_of_nonneg_of_pos`: `len(buf) > 0` after `_` and a byte have been appended
    by_cases h1 : 97 ≤ c ∧ c ≤ 122
    · cases upper <;> cases A <;> simp [h1, lastOf, Int.add_pos_of_nonneg_of_pos]
    by_cases h2 : 65 ≤ c ∧ c ≤ 90
    · cases upper <;> cases A' <;> cases B <;> simp [h1, h2, lastOf, Int.add_pos_of_nonneg_of_pos]
    by_cases h3 : 48 ≤ c ∧ c ≤ 57
    · cases A <;> simp [h1, h2, h3, lastOf, Int.add_pos_of_nonneg_of_pos]
    · simp [h1, h2, h3, lastOf]
  · rfl
  · omega
  · simp only [len_eq]; omega

end Glb.Tie.TrUnderscore
