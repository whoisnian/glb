/-
  Regenerated tie for C13: the tables read from /repo/logger/{json_handler,level}.go have the
  properties the Text-handler theorems rely on.  Re-proved by `decide` on every run.
-/
import Glb.Generated.StatusLogger
import Glb.Model.TextHandler
import Glb.Spec.TextExpected

namespace Glb.Tie.TextLogger
open Glb Glb.TextHandler

/-- the Go array type is `[utf8.RuneSelf]bool`: indexing with a byte < 0x80 cannot panic -/
theorem safeSet_length : Generated.safeSet.length = 128 := by decide +kernel

/-- `safeSet[b]` ↔ printable ASCII (DEL included) other than '"' and '\\' -/
theorem safeSet_spec : ∀ i ∈ List.range 128,
    Generated.safeSet.getD i false = (decide (0x20 ≤ i) && i != 0x22 && i != 0x5c) := by decide +kernel

/-- what `appendTextString` leaves unquoted among ASCII bytes: exactly the bytes above ' ' other than
    '=' and '"' -/
theorem ascii_bare_class : ∀ i ∈ List.range 128,
    (i != 0x5c && (i == 0x20 || i == 0x3d || !Generated.safeSet.getD i false))
      = !(decide (0x20 < i) && i != 0x3d && i != 0x22) := by
  intro i hi
  rw [safeSet_spec i hi, Bool.eq_iff_iff]
  simp
  omega

/-- `labelList[l+2]` (appendFullLevel, colour off) is the level's name for the five valid levels -/
theorem fullLevel_valid (l : Int) (h : TextExpected.validLevel l) :
    fullLevel l = .ok (TextExpected.levelName l) := by
  rcases h with h | h | h | h | h <;> subst h <;> rfl

/-- the extractor of this area recognised the source as it is on this run (a refusal removes `ok`) -/
theorem extractor_ok : Glb.Generated.StatusLogger.ok = () := rfl

end Glb.Tie.TextLogger
