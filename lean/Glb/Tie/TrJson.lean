/-
  Tie of the TRANSLATED JSON-handler helpers (Glb/Generated/TrJson.lean, rewritten from
  /repo/logger/json_handler.go on every run by tools/extract/golean.go) to the hand model
  of Glb/Model/JsonHandler.lean that the C01 theorems are about:
  `appendJsonSource` = `JsonHandler.appendJsonSource` (last-two-path-components loop, then the
  string escaper, whose own tie is Tie/TrJsonString.lean).  The level label `appendFullLevel`
  (level.go, Glb/Generated/TrLevel.lean) is tied in Tie/TrLevel.lean.
-/
import Glb.Go.Lemmas
import Glb.Generated.TrJson
import Glb.Tie.TrJsonString
import Glb.Tie.TrLevel
import Glb.Proofs.JsonHandler

namespace Glb.Tie.TrJson
open Glb.Go

/-- the value of `first` when the loop ends (the code after the loop does not read it, but the loop
    rule wants the whole final state) -/
def finalFirst (file : Bytes) : Nat → Bool → Bool
  | 0, first => first
  | idx + 1, first =>
    if file[idx + 1]? == some 0x2F then
      if first then true else finalFirst file idx true
    else finalFirst file idx first

/-- `file[idx+1:]` for the final `idx` of the loop, as the model's `trimSource` -/
theorem sliceFrom_trim (file : Bytes) :
    sliceFrom file ((if ((file.length : Int) - 1) < 0 then ((file.length : Int) - 1)
        else (Glb.JsonHandler.sourceLoop file ((file.length : Int) - 1).toNat false : Int)) + 1)
      = .ok (Glb.JsonHandler.trimSource file) := by
  cases hf : file with
  | nil => simp [Glb.JsonHandler.trimSource, sliceFrom, slice, Glb.slice?]
  | cons c rest =>
    rw [← hf]
    have hlen : file.length = rest.length + 1 := by simp [hf]
    have h1 : ¬ ((file.length : Int) - 1) < 0 := by omega
    have h2 : ((file.length : Int) - 1).toNat = file.length - 1 := by omega
    have hle := Glb.JsonHandler.sourceLoop_le file (file.length - 1) false
    rw [if_neg h1, h2]
    have : ((Glb.JsonHandler.sourceLoop file (file.length - 1) false : Nat) : Int) + 1
        = ((Glb.JsonHandler.sourceLoop file (file.length - 1) false + 1 : Nat) : Int) := by omega
    rw [this, sliceFrom_nat]
    have hne : file.isEmpty = false := by simp [hf]
    simp only [Glb.slice?, Glb.JsonHandler.trimSource, hne]
    rw [if_pos (by omega)]
    congr 1
    apply List.take_of_length_le
    simp

/-- the loop `for idx = len(file)-1; idx > 0; idx-- {…}` of `appendJsonSource`, `appendNanoSource` and
    `appendTextSource`, as the translator prints it: it ends with `idx` = the model's `sourceLoop`
    (or −1 for the empty name, on which it does not run) -/
theorem source_loop {ρ} (file : Bytes) :
    loop (ρ := ρ) (false, len file - 1) (len file - 1 - 0 + 2).toNat
      (fun st => pure (decide (st.2 > 0)))
      (fun st => do
        let c ← (do let t ← idx file st.2; pure (t == 47))
        if c = true then
          if st.1 = true then pure (Ctl.brk (st.1, st.2)) else pure (Ctl.next (true, st.2))
        else pure (Ctl.next (st.1, st.2)))
      (fun st => pure (st.1, st.2 - 1))
    = .ok (.inl (if (file.length : Int) - 1 < 0 then false else finalFirst file ((file.length : Int) - 1).toNat false,
        if (file.length : Int) - 1 < 0 then (file.length : Int) - 1
        else (Glb.JsonHandler.sourceLoop file ((file.length : Int) - 1).toNat false : Int))) := by
  rw [loop_eq (σ := Bool × Int)
    (Inv := fun st => -1 ≤ st.2 ∧ st.2 < file.length)
    (measure := fun st => (st.2 + 1).toNat)
    (model := fun st => if st.2 < 0 then .ok (.inl st) else
        .ok (.inl (finalFirst file st.2.toNat st.1,
                   (Glb.JsonHandler.sourceLoop file st.2.toNat st.1 : Int))))]
  · simp only [len_eq]
    split <;> simp [*]
  · intro ⟨first, idx⟩ ⟨h0, hl⟩
    simp only [StepOK, pure, Except.pure] at h0 hl ⊢
    by_cases hpos : idx > 0
    · obtain ⟨n, rfl⟩ : ∃ n : Nat, idx = (n : Int) + 1 := ⟨(idx - 1).toNat, by omega⟩
      have hn : n + 1 < file.length := by omega
      have hidx : Go.idx file ((n : Int) + 1) = .ok file[n + 1] := by
        have := idx_ok file (n + 1) hn
        simpa using this
      have hneg : ¬ ((n : Int) + 1 < 0) := by omega
      have htn : ((n : Int) + 1).toNat = n + 1 := by omega
      have hget : file[n + 1]? = some file[n + 1] := List.getElem?_eq_getElem hn
      simp only [hpos, decide_true, hidx, bind, Except.bind, hneg, if_false, htn,
        Glb.JsonHandler.sourceLoop, finalFirst, hget]
      by_cases hc : (file[n + 1] == 47) = true
      · cases first
        · simp only [hc, if_true, Option.some_beq_some, Bool.false_eq_true, if_false]
          refine ⟨⟨by omega, by omega⟩, by omega, ?_⟩
          have e1 : ¬ ((n : Int) + 1 - 1 < 0) := by omega
          have e2 : ((n : Int) + 1 - 1).toNat = n := by omega
          simp only [e1, if_false, e2]
        · simp [hc]
      · simp only [hc, if_false, Option.some_beq_some, Bool.false_eq_true]
        refine ⟨⟨by omega, by omega⟩, by omega, ?_⟩
        have e1 : ¬ ((n : Int) + 1 - 1 < 0) := by omega
        have e2 : ((n : Int) + 1 - 1).toNat = n := by omega
        simp only [e1, if_false, e2]
    · simp only [hpos, decide_false]
      by_cases hneg : idx < 0
      · simp [hneg]
      · have : idx = 0 := by omega
        subst this
        simp [finalFirst, Glb.JsonHandler.sourceLoop]
  · refine ⟨?_, ?_⟩ <;> (try simp) <;> omega
  · simp; omega

/-- **Tie.** The translated `appendJsonSource` writes exactly what the model says, for every file
    name and line number (`Lib.itoa` = the translator's `strconv.AppendInt(…, 10)`). -/
theorem appendJsonSource_eq (buf file : Bytes) (line : Int) :
    Glb.Tr.Logger.appendJsonSource buf file line
      = .ok (buf ++ Glb.JsonHandler.appendJsonSource file (Glb.Go.Lib.itoa line)) := by
  unfold Glb.Tr.Logger.appendJsonSource
  simp only [source_loop]
  simp only [bind, Except.bind, pure, Except.pure, sliceFrom_trim, Lib.appendInt10, ToInt.toInt, id,
    Glb.Tie.TrJsonString.appendJsonString_eq]
  simp [Glb.JsonHandler.appendJsonSource, Glb.JsonHandler.kFile, Glb.JsonHandler.kLine]

end Glb.Tie.TrJson
