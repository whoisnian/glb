/-
  Regenerated tie for C15: what `tools/extract` read from /repo/logger/httpd.go and
  /repo/httpd/store.go satisfies the ordering facts the theorems of Props/C15 rest on.
  Re-proved by `decide` on every run.  Predicates over the extracted event lists, so that
  harmless rewrites (more attributes, extra local computation) keep passing; the one equality
  (`prog_is`) says that the interpreted parameters are those the theorems were proved for.
-/
import Glb.Generated.StatusRelay
import Glb.Proofs.Relay

namespace Glb.Tie.Relay
open Glb.Relay Glb.Generated

def pos (l : List String) (s : String) : Option Nat := l.idxOf? s

/-- `a` occurs, `b` occurs, and the first `a` is before the first `b` -/
def before (l : List String) (a b : String) : Bool :=
  match pos l a, pos l b with
  | some i, some j => i < j
  | _, _ => false

def once (l : List String) (s : String) : Bool := l.count s == 1

/-- the model interprets exactly the program the theorems of C15 were proved for -/
theorem prog_is : prog = progNow := prog_eq

/-- REQ_BEG is written before the handler runs, under `Enabled(LevelInfo)`; the handler is called
    once, unconditionally, after both `defer`s -/
theorem beg_then_defers_then_handler :
    before relayEvents "log:4:REQ_BEG" "defer:end" = true
    ∧ before relayEvents "defer:recover" "callHandler" = true
    ∧ once relayEvents "callHandler" = true
    ∧ relayBody.getLast? = some "callHandler" := by decide

/-- the recover function is registered AFTER the REQ_END function, hence (LIFO) runs first: the
    500 it may send is visible to REQ_END -/
theorem recover_runs_first :
    before relayEvents "defer:end" "defer:recover" = true
    ∧ once relayEvents "defer:end" = true ∧ once relayEvents "defer:recover" = true := by decide

/-- REQ_END is deferred (not written inline), guarded by `Enabled(LevelInfo)`, defaults
    `Status 0 → 200` before it logs `code = Status` -/
theorem req_end_deferred :
    relayEvents.all (fun e => e != "log:4:REQ_END") = true
    ∧ before relayEndEvents "guard:Enabled:4" "log:4:REQ_END" = true
    ∧ before relayEndEvents "set:Status=200" "log:4:REQ_END" = true
    ∧ relayEndDefault = some (0, 200) ∧ relayEndLogsStatus = true := by decide

/-- `recover()` is called by the deferred function itself; the handled values are exactly
    `err != nil && err != http.ErrAbortHandler` -/
theorem recover_condition :
    relayRecoverEvents.take 3 = ["recover", "cond:err!=nil", "cond:err!=http.ErrAbortHandler"]
    ∧ relayRecoverEvents.all (fun e => e != "recover-in-nested-func") = true
    ∧ relayRecovers = true ∧ relayNilExcluded = true ∧ relayAbortExcluded = true :=
  ⟨rfl, by decide, rfl, rfl, rfl⟩

/-- `http.Error(…, 500)` only under `if store.W.Status == 0` -/
theorem error500_only_when_unset :
    relay500Code = some 500 ∧ relay500Guard = some 0
    ∧ before relayRecoverEvents "if:Status==0" "httpError:500" = true
    ∧ once relayRecoverEvents "httpError:500" = true := by decide

/-- the Error record: level Error, guarded by `Enabled(LevelError)`, carries the recovered value
    and the request id -/
theorem error_record :
    before relayRecoverEvents "guard:Enabled:12" "log:12:" = true
    ∧ "panic=err" ∈ relayErrAttrs ∧ "tid=store.GetID()" ∈ relayErrAttrs
    ∧ relayErrHasValueAndID = true := by decide

/-- REQ_BEG and REQ_END carry the same four request attributes (same expressions) -/
theorem same_request_fields :
    ∀ a ∈ ["ip=remoteIP", "method=store.R.Method", "path=store.R.RequestURI", "tid=store.GetID()"],
      a ∈ relayBegAttrs ∧ a ∈ relayEndAttrs := by
  simp [relayBegAttrs, relayEndAttrs]

/-- the level gates are the logger's own constants -/
theorem level_gates :
    relayBegLevel = some Relay.levelInfo ∧ relayEndLevel = some Relay.levelInfo
    ∧ relayErrLevel = some Relay.levelError := by decide

/-- `ResponseWriter.Write` sends the implicit 200 through `WriteHeader` when `Status == 0`;
    `WriteHeader` forwards to the origin and records the code -/
theorem store_records_status :
    storeWriteImplicit = some (0, 200) ∧ storeWriteHeaderRecords = true
    ∧ before storeWriteEvents "WriteHeader:200" "origin.Write" = true
    ∧ "origin.WriteHeader:code" ∈ storeWriteHeaderEvents
    ∧ "set:Status=code" ∈ storeWriteHeaderEvents := by decide

/-- `Flush` and `FlushError` record the implicit 200 (`if Status == 0 { WriteHeader(200) }`, via
    `markFlushed`) in every branch BEFORE the origin flushes and sends it -/
theorem flush_records_status :
    storeFlushImplicit = some (0, 200)
    ∧ prog.flushImplicit = prog.writeImplicit
    ∧ storeFlushEvents.count "origin.Flush" = 1
    ∧ (storeFlushErrorEvents.count "origin.Flush" + storeFlushErrorEvents.count "origin.FlushError"
        = storeFlushErrorEvents.count "markFlushed" + storeFlushErrorEvents.count "WriteHeader:200") := by decide

/-- The model's `RW` has exactly three status-relevant entry points: `WriteHeader`, `Write` and
    the flushes (through `markFlushed`).  That is sound only while `ResponseWriter` has no other
    way to put a header on the wire: this lemma pins the COMPLETE method set declared in package
    httpd (all non-test files) to `Header, Write, WriteHeader, Flush, markFlushed, FlushError`
    and demands that the struct embeds nothing (an embedded http.ResponseWriter would promote the
    origin's methods).  Any further method — `ReadFrom`, `WriteString`, `Unwrap`, `Hijack`,
    `Push`, … — can reach `w.Origin` without going through `Write`/`WriteHeader`/`markFlushed`
    (io.Copy, io.WriteString and http.ResponseController look for exactly such methods) and so
    breaks the assumption under which `relay_contract` speaks about the code; it must be added
    to the model (as `flush` is) before this lemma may be changed.  `Header` only exposes the
    header map and sends nothing. -/
theorem response_writer_method_set :
    storeRWMethodsSorted = ["Flush", "FlushError", "Header", "Write", "WriteHeader", "markFlushed"]
    ∧ storeRWMethods.length = 6
    ∧ storeRWEmbedded = []
    ∧ storeRWFields = ["Origin http.ResponseWriter", "Status int"] :=
  ⟨rfl, rfl, rfl, rfl⟩

/-- the extractor of this area recognised the source as it is on this run (a refusal removes `ok`) -/
theorem extractor_ok : Glb.Generated.StatusRelay.ok = () := rfl

end Glb.Tie.Relay
