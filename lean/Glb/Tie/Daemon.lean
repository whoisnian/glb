/-
  Regenerated tie for C20: what `tools/extract` read from /repo/daemon/daemon.go satisfies the
  ordering facts `launch_ok` rests on.  Re-proved by `decide` on every run.
-/
import Glb.Generated.StatusDaemon
import Glb.Proofs.Daemon

namespace Glb.Tie.Daemon
open Glb.Daemon Glb.Generated

def before (l : List String) (a b : String) : Bool :=
  match l.idxOf? a, l.idxOf? b with
  | some i, some j => i < j
  | _, _ => false

/-- `signal.Notify` precedes `cmd.Start()` in `launch` (the repair of F7) -/
theorem notify_before_start : before launchOrder "notify" "start" = true := by decide

/- the whole order is one `launch_ok` applies to — also with the `verifPause` hook after Start -/
theorem order_now_good : GoodOrder orderNow := by decide
theorem order_now_paused_good : GoodOrder (withPause orderNow) := by decide

/-- no step the extractor could not classify -/
theorem order_fully_classified : orderNow.all (fun s => s != .other) = true := by decide

/-- the final select waits for exactly the daemon's exit and the signal (two cases with empty
    bodies — a case with a body is listed as a third entry), without default -/
theorem select_cases :
    "finished" ∈ launchSelect ∧ "interrupt" ∈ launchSelect ∧ "default" ∉ launchSelect
    ∧ launchSelect.length = 2 := by simp [launchSelect]

/-- the signal `Done()` sends to its parent is the one the launcher listens for -/
theorem done_signals_parent :
    "find:os.Getppid()" ∈ doneEvents ∧ ("signal:" ++ launchNotifySignal) ∈ doneEvents := by
  simp [doneEvents, launchNotifySignal]

/-- `Launch` captures stdout and stderr, reads stdout only after `cmd.Run()` has returned, and
    treats non-empty stderr as failure before looking at stdout -/
theorem caller_reads_after_run :
    before callerEvents "captureStdout" "run" = true
    ∧ before callerEvents "captureStderr" "run" = true
    ∧ before callerEvents "run" "checkStderr" = true
    ∧ before callerEvents "checkStderr" "readStdout" = true
    ∧ "stderrIsError" ∈ callerEvents
    ∧ callerEvents.count "run" = 1
    ∧ (∀ e ∈ ["other:cmd.Start", "other:cmd.Wait", "other:cmd.Output", "other:cmd.CombinedOutput"],
        e ∉ callerEvents) := by decide

/-- the launcher reports a failed start and a failed wait on stderr -/
theorem launcher_reports_on_stderr : "launch" ∈ launchStderr ∧ "waiter" ∈ launchStderr := by
  simp [launchStderr]

/-- the extractor of this area recognised the source as it is on this run (a refusal removes `ok`) -/
theorem extractor_ok : Glb.Generated.StatusDaemon.ok = () := rfl

end Glb.Tie.Daemon
