/-
  Tie of the TRANSLATED `parseRoute` of `/repo/httpd/tree.go` (Glb/Generated/TrParseRoute.lean, rewritten
  from the Go source on every run by tools/extract/golean.go; pointer statements = Glb/Go/LibRouter.lean)
  to the hand-written model `Glb.Router.parseRoute` (Glb/Model/Router.lean) that the registration
  theorems of Props/C04 (`register_errors`, `trie_refines_routes`, `build_succeeds_iff`, …) are about.
-/
import Glb.Go.Lemmas
import Glb.Generated.TrParseRoute
import Glb.Model.Router
import Glb.Proofs.RouterTrie
import Glb.Proofs.AuxStrutil
import Glb.Tie.TrStrutil
import Glb.Tie.TrRouter
import Glb.Props.CodeC04

namespace Glb.Tie.TrParseRoute
open Glb.Go
open Glb.Go.LibRouter
open Glb.Tie.TrRouter (guard_eq)
open Glb.Router (Node RouteId modifyAt descend setPayload parseLoop ParseOut notSlashAt RegErr methodTag?)

/-! ### the trie: stepwise `nextNodeOrNew` (translated code) = one `modifyAt` at the end (model) -/

theorem assocSet_assocSet {α} (l : List (Bytes × α)) (k : Bytes) (v v' : α) :
    Glb.Router.assocSet (Glb.Router.assocSet l k v) k v' = Glb.Router.assocSet l k v' := by
  induction l with
  | nil => simp [Glb.Router.assocSet]
  | cons e r ih =>
    obtain ⟨k0, v0⟩ := e
    by_cases h : k0 = k
    · simp [Glb.Router.assocSet, h]
    · simp [Glb.Router.assocSet, h, ih]

theorem setChild_setChild (n : Node) (k : Bytes) (c c' : Node) :
    (n.setChild k c).setChild k c' = n.setChild k c' := by
  simp [Node.setChild, assocSet_assocSet]

theorem childOrNew_setChild (n : Node) (k : Bytes) (c : Node) : (n.setChild k c).childOrNew k = c := by
  simp [Node.childOrNew, Node.child_setChild]

theorem modifyAt_append (f : Node → Node) (t : Node) (ks ks' : List Bytes) :
    modifyAt f t (ks ++ ks') = modifyAt (fun n => modifyAt f n ks') t ks := by
  induction ks generalizing t with
  | nil => rfl
  | cons k ks ih => simp only [List.cons_append, modifyAt, ih]

theorem modifyAt_modifyAt (g f : Node → Node) (t : Node) (ks : List Bytes) :
    modifyAt g (modifyAt f t ks) ks = modifyAt (fun n => g (f n)) t ks := by
  induction ks generalizing t with
  | nil => rfl
  | cons k ks ih => simp only [modifyAt, childOrNew_setChild, setChild_setChild, ih]

/-- `node = node.nextNodeOrNew(k)` after the walk along `keys` = the walk along `keys ++ [k]` -/
theorem ensureAt_step (root0 : Node) (keys : List Bytes) (k : Bytes) :
    ensureAt (modifyAt (fun n => n) root0 keys) keys k = modifyAt (fun n => n) root0 (keys ++ [k]) := by
  unfold ensureAt
  rw [modifyAt_append, modifyAt_modifyAt, ← modifyAt_append]

/-- the last three pointer statements of `parseRoute` = the model's single `modifyAt (setPayload ..)` -/
theorem finish_eq (root0 : Node) (keys names : List Bytes) (tag : Bytes) (id : RouteId) :
    setParamsAt (setInfoAt (ensureAt (modifyAt (fun n => n) root0 keys) keys tag) (keys ++ [tag]) id)
        (keys ++ [tag]) names
      = modifyAt (setPayload id names) root0 (keys ++ [tag]) := by
  rw [ensureAt_step]
  unfold setParamsAt setInfoAt
  rw [modifyAt_modifyAt, modifyAt_modifyAt]
  congr 1

/-- `"invalid method " + method + " for routePath: " + path` -/
def msgInvalidMethod (method path : Bytes) : Bytes :=
  ([105, 110, 118, 97, 108, 105, 100, 32, 109, 101, 116, 104, 111, 100, 32] : Bytes) ++ method ++
    ([32, 102, 111, 114, 32, 114, 111, 117, 116, 101, 80, 97, 116, 104, 58, 32] : Bytes) ++ path

/-- `"invalid fragment :" + paramName + " in routePath: " + path` -/
def msgInvalidFragment (name path : Bytes) : Bytes :=
  ([105, 110, 118, 97, 108, 105, 100, 32, 102, 114, 97, 103, 109, 101, 110, 116, 32, 58] : Bytes) ++ name ++
    ([32, 105, 110, 32, 114, 111, 117, 116, 101, 80, 97, 116, 104, 58, 32] : Bytes) ++ path

/-- `"duplicate method " + method + " for routePath: " + path` -/
def msgDuplicate (method path : Bytes) : Bytes :=
  ([100, 117, 112, 108, 105, 99, 97, 116, 101, 32, 109, 101, 116, 104, 111, 100, 32] : Bytes) ++ method ++
    ([32, 102, 111, 114, 32, 114, 111, 117, 116, 101, 80, 97, 116, 104, 58, 32] : Bytes) ++ path

/-- state of the translated loop: `(paramNameList, root, keys, left, right)` -/
abbrev LoopSt := List Bytes × Node × List Bytes × Int × Int
/-- result of the translated function: `(root, keys, paramsCnt, err)` -/
abbrev Res := Node × List Bytes × Int × Option Bytes

/-- what the translated loop leaves behind, given what the model's `parseLoop` yields: the trie walked so
    far (`modifyAt id root0 keys`), any `left`/`right` (nothing reads them afterwards), or the "invalid fragment" return with its message -/
def Agrees (root0 : Node) (path : Bytes) (out : ParseOut) (x : Sum LoopSt Res) : Prop :=
  match out.ok with
  | true => ∃ l r : Int, x = .inl (out.names, modifyAt (fun n => n) root0 out.keys, out.keys, l, r)
  | false => ∃ name, x = .inr (modifyAt (fun n => n) root0 out.keys, out.keys, 0, some (msgInvalidFragment name path))

theorem sliceContain_iff (l : List Bytes) (v : Bytes) : Glb.Aux.Str.sliceContain l v = true ↔ v ∈ l :=
  Glb.Aux.Str.sliceContain_iff l v

theorem mapGet_tag (m : Bytes) : Glb.Go.mapGet Generated.methodTagMap m = methodTag? m := by
  simp only [Glb.Router.methodTag?, Glb.Tie.TrRouter.mapGet_eq_assocGet]

/-- the check `paramName == "" || SliceContain(paramNameList, paramName)` -/
theorem dupGuard_eq (names : List Bytes) (name : Bytes) :
    ((if (name == []) = true then .ok true else .ok (Glb.Aux.Str.sliceContain names name)) : M Bool)
      = .ok (decide (name = [] ∨ name ∈ names)) := by
  by_cases h0 : name = []
  · simp [h0]
  · have := sliceContain_iff names name
    by_cases hmem : name ∈ names <;> simp_all

theorem idxI_succ {α} (s : List α) (a : Nat) : idxI s ((a : Int) + 1) = Glb.idx? s (a + 1) := idxI_nat s (a + 1)

theorem slice_succ2 {α} (s : List α) (a b : Nat) : slice s ((a : Int) + 2) b = Glb.slice? s (a + 2) b :=
  slice_nat s (a + 2) b

theorem msgIM_add (method path : Bytes) :
    (([105, 110, 118, 97, 108, 105, 100, 32, 109, 101, 116, 104, 111, 100, 32] : Bytes) + method +
      ([32, 102, 111, 114, 32, 114, 111, 117, 116, 101, 80, 97, 116, 104, 58, 32] : Bytes) + path)
      = msgInvalidMethod method path := rfl

theorem msgIF_add (name path : Bytes) :
    (([105, 110, 118, 97, 108, 105, 100, 32, 102, 114, 97, 103, 109, 101, 110, 116, 32, 58] : Bytes) + name +
      ([32, 105, 110, 32, 114, 111, 117, 116, 101, 80, 97, 116, 104, 58, 32] : Bytes) + path)
      = msgInvalidFragment name path := rfl

theorem msgD_add (method path : Bytes) :
    (([100, 117, 112, 108, 105, 99, 97, 116, 101, 32, 109, 101, 116, 104, 111, 100, 32] : Bytes) + method +
      ([32, 102, 111, 114, 32, 114, 111, 117, 116, 101, 80, 97, 116, 104, 58, 32] : Bytes) + path)
      = msgDuplicate method path := rfl

/-- the error class of a `parseRoute` message, read off its fixed prefix -/
def classOf (m : Bytes) : Option RegErr :=
  if ([105, 110, 118, 97, 108, 105, 100, 32, 109, 101, 116, 104, 111, 100, 32] : Bytes).isPrefixOf m then
    some .invalidMethod
  else if ([105, 110, 118, 97, 108, 105, 100, 32, 102, 114, 97, 103, 109, 101, 110, 116, 32, 58] : Bytes).isPrefixOf m then
    some .invalidFragment
  else if ([100, 117, 112, 108, 105, 99, 97, 116, 101, 32, 109, 101, 116, 104, 111, 100, 32] : Bytes).isPrefixOf m then
    some .duplicate
  else none

/-- the message of an error class; `name` is the parameter name an "invalid fragment" message quotes -/
def errMsg (method path name : Bytes) : RegErr → Bytes
  | .invalidFragment => msgInvalidFragment name path
  | .invalidMethod => msgInvalidMethod method path
  | .duplicate => msgDuplicate method path

theorem classOf_errMsg (method path name : Bytes) (e : RegErr) : classOf (errMsg method path name e) = some e := by
  cases e <;> rfl

/-- the byte lists in the three message definitions are the string constants of tree.go -/
theorem errMsg_str (method path name : Bytes) (e : RegErr) :
    errMsg method path name e = match e with
      | .invalidFragment => Glb.strBytes "invalid fragment :" ++ name ++ Glb.strBytes " in routePath: " ++ path
      | .invalidMethod => Glb.strBytes "invalid method " ++ method ++ Glb.strBytes " for routePath: " ++ path
      | .duplicate => Glb.strBytes "duplicate method " ++ method ++ Glb.strBytes " for routePath: " ++ path := by
  cases e
  · simp only [errMsg, msgInvalidMethod]; congr 3 <;> decide +kernel
  · simp only [errMsg, msgInvalidFragment]; congr 3 <;> decide +kernel
  · simp only [errMsg, msgDuplicate]; congr 3 <;> decide +kernel

/-- **The tie, relational form.**  For every trie, pattern, method string and id the translated
    `parseRoute` (Go pointer `node` = `(root, [])`) and the model agree: same panic (payload included),
    same trie afterwards (also after a refused registration), same `paramsCnt`, and the `error` is the
    message of the model's error class (`keys` is the Go pointer `node` at the end, which the Go function
    does not return). -/
theorem parseRoute_rel (root : Node) (path method : Bytes) (id : RouteId) :
    match Glb.Router.parseRoute root path method id with
    | .error e => Glb.Tr.Router.parseRoute root [] path method id = .error e
    | .ok ⟨rt, .ok n⟩ => ∃ keys, Glb.Tr.Router.parseRoute root [] path method id = .ok (rt, keys, (n : Int), none)
    | .ok ⟨rt, .error e⟩ => ∃ keys name, Glb.Tr.Router.parseRoute root [] path method id
        = .ok (rt, keys, 0, some (errMsg method path name e)) := by
  unfold Glb.Router.parseRoute
  cases hm : methodTag? method with
  | none =>
    unfold Glb.Tr.Router.parseRoute
    dsimp only
    simp only [mapGet_tag, hm, Option.isSome_none, Bool.not_false, if_true, msgIM_add, pure, Except.pure]
    exact ⟨_, [], rfl⟩
  | some tag =>
  unfold Glb.Tr.Router.parseRoute
  delta Glb.Go.len
  dsimp only
  simp only [mapGet_tag, Glb.Tie.TrRouter.mapGetD_tagOf, Glb.Router.tagOf_of_some hm, hm, Option.isSome_some,
    Bool.not_true, Bool.false_eq_true, if_false]
  generalize hL : loop _ _ _ _ _ = L
  have hsim := loop_sim (σ := LoopSt) (ρ := Res)
    (fun st => st.2.1 = modifyAt (fun n => n) root st.2.2.1 ∧ IdxInv path.length st.2.2.2.1 st.2.2.2.2)
    (fun st => idxMeasure path.length st.2.2.2.2)
    (fun st => viaNat path.length (fun f l r => parseLoop path f l r st.2.2.1 st.1) st.2.2.2.1 st.2.2.2.2)
    (Agrees root path) ?step _ _ hL
    (show _ ∧ IdxInv path.length 0 0 from ⟨rfl, Int.le_refl 0, Int.le_refl 0, by omega⟩)
    (by show path.length + 1 - 0 < _; omega)
  case step =>
    intro ⟨names, rt, keys, l, r⟩ ⟨hrt, hinv⟩
    obtain ⟨l, r, rfl, rfl⟩ := IdxInv.nat hinv
    dsimp only at hrt
    subst hrt
    clear hinv
    simp only [StepSim, idx_int, idxI_nat, idxI_succ, decide_int_le, decide_int_lt, decide_int_sub_lt_two,
      slice_succ, slice_succ2, Glb.Tie.TrStrutil.SliceContain_eq, msgIF_add, ensureAt_step, bind, pure, Except.pure,
      guard_eq, dupGuard_eq, bind_ok]
    by_cases hle : r ≤ path.length
    · have next := fun ks ns l' => (fun h => (⟨⟨trivial, h.1⟩, h.2⟩ : (True ∧ _) ∧ _))
        (idx_next (fun f l r => parseLoop path f l r ks ns) l' hle)
      simp only [viaNat_le _ _ hle, parseLoop, decide_eq_true hle]
      cases hns : notSlashAt path r
      · simp only [Bool.false_eq_true, if_false]
        by_cases h2 : r - l < 2
        · simp only [h2, decide_true, if_true]
          exact next _ _ _
        · simp only [h2, decide_false, Bool.false_eq_true, if_false, bind]
          cases hs : slice? path (l + 1) r with
          | error e => exact rfl
          | ok frag =>
            simp only [bind_ok, beq_iff_eq]
            by_cases h42 : frag = [42]
            · simp only [h42, if_true]
              exact ⟨_, rfl, _, _, rfl⟩
            · simp only [h42, if_false]
              cases hi : idx? path (l + 1) with
              | error e => exact rfl
              | ok c =>
                simp only [bind_ok, beq_iff_eq]
                by_cases h58 : c = 58
                · simp only [h58, if_true]
                  cases hs2 : slice? path (l + 2) r with
                  | error e => exact rfl
                  | ok name =>
                    simp only [bind_ok, decide_eq_true_eq]
                    by_cases hn : name = [] ∨ name ∈ names
                    · simp only [hn, if_true]
                      exact ⟨_, rfl, _, rfl⟩
                    · simp only [hn, if_false]
                      exact next _ _ _
                · simp only [h58, if_false]
                  exact next _ _ _
      · simp only [if_true]
        exact next _ _ _
    · simp only [viaNat_gt _ _ hle, parseLoop, decide_eq_false hle]
      exact ⟨_, rfl, _, _, rfl⟩
  -- the code around the loop
  have hm0 := viaNat_le (fun f l r => parseLoop path f l r [] []) 0 (Nat.zero_le path.length)
  simp only [Int.natCast_zero, Nat.sub_zero] at hm0
  dsimp only at hsim
  rw [hm0] at hsim
  simp only [msgD_add]
  generalize parseLoop path (path.length + 1) 0 0 [] [] = pl at hsim ⊢
  cases pl with
  | error e =>
    rw [show L = .error e from hsim]
    simp only [bind, Except.bind]
  | ok out =>
    obtain ⟨ks, ns, okb⟩ := out
    obtain ⟨a, rfl, ha⟩ := hsim
    cases okb with
    | false =>
      obtain ⟨name, rfl⟩ := ha
      simp only [bind, Except.bind, pure, Except.pure, Bool.not_false, if_true]
      exact ⟨_, _, rfl⟩
    | true =>
      obtain ⟨l', r', rfl⟩ := ha
      simp only [bind, Except.bind, pure, Except.pure, Bool.not_true, Bool.false_eq_true, if_false,
        hasChildAt, nodeAt, finish_eq]
      cases hc : ((descend (modifyAt (fun n => n) root ks) ks).getD Node.empty).child tag with
      | some c =>
        simp only [Option.isSome_some, if_true]
        exact ⟨_, [], rfl⟩
      | none =>
        simp only [Option.isSome_none, Bool.false_eq_true, if_false]
        exact ⟨_, rfl⟩

/-- **`parseRoute` of httpd/tree.go, as translated, is the model's `parseRoute`**, for every trie,
    pattern, method string and id, panics included (same payloads: both sides take the same slices
    and indices with the same bounds checks): the same trie afterwards (including the nodes a REFUSED
    registration leaves behind), the same `paramsCnt`, and an error iff the model reports one.
    (The Go pointer `node` is `(root, [])`; the component `r.2.1`, the keys walked, is not returned
    by the Go function and is dropped.) -/
theorem parseRoute_eq (root : Node) (path method : Bytes) (id : RouteId) :
    (Glb.Tr.Router.parseRoute root [] path method id).map (fun r => (r.1, r.2.2.1, r.2.2.2.isSome))
      = (Glb.Router.parseRoute root path method id).map (fun pr => (pr.root,
          (match pr.result with | .ok n => (n : Int) | .error _ => 0),
          (match pr.result with | .ok _ => false | .error _ => true))) := by
  have h := parseRoute_rel root path method id
  split at h
  · next hm => rw [hm, h]; rfl
  · next hm => obtain ⟨keys, h⟩ := h; rw [hm, h]; rfl
  · next hm => obtain ⟨keys, name, h⟩ := h; rw [hm, h]; rfl

/-- **The error class.**  The class of the translated function's message (read off its fixed prefix
    `"invalid method "`, `"invalid fragment :"`, `"duplicate method "`) is the model's `RegErr`;
    `nil` exactly when the model succeeds.  Panics agree as in `parseRoute_eq`. -/
theorem parseRoute_class (root : Node) (path method : Bytes) (id : RouteId) :
    (Glb.Tr.Router.parseRoute root [] path method id).map (fun r => r.2.2.2.map classOf)
      = (Glb.Router.parseRoute root path method id).map (fun pr =>
          match pr.result with | .ok _ => none | .error e => some (some e)) := by
  have h := parseRoute_rel root path method id
  split at h
  · next hm => rw [hm, h]; rfl
  · next hm => obtain ⟨keys, h⟩ := h; rw [hm, h]; rfl
  · next hm => obtain ⟨keys, name, h⟩ := h; rw [hm, h]; simp only [Except.map, Option.map, classOf_errMsg]

/-- the exact messages, as strings -/
theorem parseRoute_message (root : Node) (path method : Bytes) (id : RouteId) (rt : Node) (e : RegErr)
    (hmod : Glb.Router.parseRoute root path method id = .ok ⟨rt, .error e⟩) :
    ∃ keys, match e with
      | .invalidMethod => Glb.Tr.Router.parseRoute root [] path method id = .ok (rt, keys, 0,
          some (Glb.strBytes "invalid method " ++ method ++ Glb.strBytes " for routePath: " ++ path))
      | .invalidFragment => ∃ name, Glb.Tr.Router.parseRoute root [] path method id = .ok (rt, keys, 0,
          some (Glb.strBytes "invalid fragment :" ++ name ++ Glb.strBytes " in routePath: " ++ path))
      | .duplicate => Glb.Tr.Router.parseRoute root [] path method id = .ok (rt, keys, 0,
          some (Glb.strBytes "duplicate method " ++ method ++ Glb.strBytes " for routePath: " ++ path)) := by
  have h := parseRoute_rel root path method id
  rw [hmod] at h
  obtain ⟨keys, name, h⟩ := h
  refine ⟨keys, ?_⟩
  cases e with
  | invalidMethod => rw [h, errMsg_str]
  | invalidFragment => exact ⟨name, by rw [h, errMsg_str]⟩
  | duplicate => rw [h, errMsg_str]

/-! ### C04 about the translated registration

  Registration histories run with the TRANSLATED `parseRoute` (a registration counts as accepted when
  the translated function returns a nil error) are the model's histories, so the C04 theorems about
  tables "whose registrations all succeed" and about refused registrations hold of the translated code. -/

open Glb.Router (Reg buildFrom build LeadingSlash regOf errOf)
open Glb.RouteList (Route specRegister specFind)

/-- `Glb.Router.buildFrom` with the translated `parseRoute`: run the registrations, ids counting from
    `i`; `none` as soon as one returns an error or panics -/
def trBuildFrom : Node → Nat → List Reg → Option Node
  | t, _, [] => some t
  | t, i, r :: rs =>
    match Glb.Tr.Router.parseRoute t [] r.path r.method i with
    | .ok (t', _, _, none) => trBuildFrom t' (i + 1) rs
    | _ => none

def trBuild (rs : List Reg) : Option Node := trBuildFrom Node.empty 0 rs

theorem trBuildFrom_eq (rs : List Reg) : ∀ (t : Node) (i : Nat), trBuildFrom t i rs = buildFrom t i rs := by
  induction rs with
  | nil => intro t i; rfl
  | cons r rs ih =>
    intro t i
    have h := parseRoute_rel t r.path r.method i
    simp only [trBuildFrom, buildFrom]
    split at h
    · next hm => rw [hm, h]
    · next hm => obtain ⟨keys, h⟩ := h; rw [hm, h]; exact ih _ _
    · next hm => obtain ⟨keys, name, h⟩ := h; rw [hm, h]

theorem trBuild_eq (rs : List Reg) : trBuild rs = build rs := trBuildFrom_eq rs _ _

/-- `Glb.C04.runHistory` with the translated `parseRoute`: any history of `Handle` calls, refused ones
    included (error ≠ nil: the route is not added, the trie keeps the nodes created) -/
def trRunHistory : Node → List Route → List Reg → Except GoPanic (Node × List Route)
  | t, ok, [] => .ok (t, ok)
  | t, ok, r :: rs =>
    match Glb.Tr.Router.parseRoute t [] r.path r.method ok.length with
    | .error e => .error e
    | .ok (t', _, _, none) => trRunHistory t' (ok ++ [⟨r.path, r.method⟩]) rs
    | .ok (t', _, _, some _) => trRunHistory t' ok rs

theorem trRunHistory_eq (rs : List Reg) : ∀ (t : Node) (ok : List Route),
    trRunHistory t ok rs = Glb.C04.runHistory t ok rs := by
  induction rs with
  | nil => intro t ok; rfl
  | cons r rs ih =>
    intro t ok
    have h := parseRoute_rel t r.path r.method ok.length
    simp only [trRunHistory, Glb.C04.runHistory]
    split at h
    · next hm => rw [hm, h]
    · next hm => obtain ⟨keys, h⟩ := h; rw [hm, h]; exact ih _ _
    · next hm => obtain ⟨keys, name, h⟩ := h; rw [hm, h]; exact ih _ _

/-- **C04 `register_errors` for the translated `parseRoute`.**  After ANY history of registrations run
    with the translated code (refused ones included), the translated `parseRoute` does not panic and
    refuses a leading-slash pattern exactly when the route-list specification says so, with a message
    of that error class and count 0; otherwise it returns nil and the number of captured values. -/
theorem C04_register_errors (hist : List Reg) (hh : ∀ r ∈ hist, LeadingSlash r.path) :
    ∃ t ok, trRunHistory Node.empty [] hist = .ok (t, ok) ∧
      ∀ (p m : Bytes) (i : RouteId), LeadingSlash p →
        match specRegister ok ⟨p, m⟩ with
        | .ok n => ∃ t' keys, Glb.Tr.Router.parseRoute t [] p m i = .ok (t', keys, (n : Int), none)
        | .error e => ∃ t' keys msg, Glb.Tr.Router.parseRoute t [] p m i = .ok (t', keys, 0, some msg) ∧
            classOf msg = some (errOf e) := by
  obtain ⟨t, ok, hrun, hreg⟩ := Glb.C04.register_errors hist hh
  refine ⟨t, ok, by rw [trRunHistory_eq, hrun], ?_⟩
  intro p m i hp
  obtain ⟨t', hmod⟩ := hreg p m i hp
  have h := parseRoute_rel t p m i
  rw [hmod] at h
  cases hs : specRegister ok ⟨p, m⟩ with
  | ok n =>
    rw [hs] at h
    exact ⟨t', h⟩
  | error e =>
    rw [hs] at h
    obtain ⟨keys, name, h⟩ := h
    exact ⟨t', keys, _, h, classOf_errMsg _ _ _ _⟩

/-- **C04 `build_succeeds_iff` for the translated `parseRoute`**: the translated registrations of a
    list of leading-slash routes all return nil iff the route list accepts each after its predecessors -/
theorem C04_build_succeeds_iff (routes : List Route) (hls : ∀ r ∈ routes, LeadingSlash r.pattern) :
    (trBuild (routes.map regOf)).isSome ↔ Glb.C04.AllAccepted [] routes := by
  rw [trBuild_eq]
  exact Glb.C04.build_succeeds_iff routes hls

/-- **C04 refinement, registration and lookup both as translated.**  On the trie the translated
    `parseRoute` builds from leading-slash routes that it all accepts, the translated `findRoute`
    returns — without panicking — exactly the route the route-list specification selects, with its
    names and the texts bound to them. -/
theorem C04_findRoute_of_trBuild (routes : List Route) (t : Node)
    (hls : ∀ r ∈ routes, LeadingSlash r.pattern) (hb : trBuild (routes.map regOf) = some t)
    (path method : Bytes) :
    ∃ V', Glb.Tr.Router.findRoute t path method [] [] = .ok (match specFind routes path method with
      | some mt => ((Glb.C04.paramsOf mt).K, (Glb.C04.paramsOf mt).V, some mt.id)
      | none => ([], V', none)) :=
  Glb.Code.C04_findRoute routes t hls (trBuild_eq _ ▸ hb) path method

/-! ### non-vacuity: the translated code run on the concrete table of Props/C04 -/

-- the translated `parseRoute` accepts `GET /a/:x`, `GET /a/b`, `* /*` in this order
example : (trBuild (Glb.C04.exTable.map regOf)).isSome = true := by decide +kernel
-- and refuses a repeated `:x` with an "invalid fragment :" message
example : (Glb.Tr.Router.parseRoute Node.empty [] [47, 58, 120, 47, 58, 120] [71, 69, 84] 0).map
    (fun r => r.2.2.2.map classOf) = .ok (some (some .invalidFragment)) := by decide +kernel

end Glb.Tie.TrParseRoute
