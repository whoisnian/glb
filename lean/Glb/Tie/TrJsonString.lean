/-
  Tie of the TRANSLATED `appendJsonString` (/repo/logger/json_handler.go:279, regenerated into
  Glb/Generated/TrJson.lean on every run) to the hand model `Glb.JsonHandler.appendJsonString`
  (= `ajsGo 0 true`, Glb/Model/JsonHandler.lean) the C01 property theorems are about.

  The Go loop copies runs `str[start:i]` lazily, the model emits byte by byte, so the final loop state
  is not a handy function of the start state; instead of `loop_eq` the proof uses the Hoare-style rule
  `loop_inv_bind` (Glb/Go/LemmasJsonString.lean) with the relational invariant

      start ≤ i ≤ len str  ∧  buf ++ str[start:i] ++ model (str[i:]) = buf0 ++ model str.

  Every iteration advances `i` by `k ≥ 1` bytes with `model str[i:] = E ++ model str[i+k:]` and either
  leaves `buf`/`start` alone with `E = str[i:i+k]` (`inv_copy`) or flushes the run and appends the escape
  `E` (`inv_esc`).  The model-side equations are `ajs_ascii` / `ajs_multi` of Proofs/JsonString.lean; the
  tables `safeSet` (128 entries) and `hex` (16 entries) are read through Go/LemmasTables.lean.
-/
import Glb.Go.Lemmas
import Glb.Go.LemmasJsonString
import Glb.Go.LemmasTables
import Glb.Generated.TrJson
import Glb.Model.JsonHandler
import Glb.Tie.Logger
import Glb.Proofs.JsonString

namespace Glb.Tie.TrJsonString
open Glb.Go Glb.JsonHandler

def InvN (buf0 str : Bytes) (i : Nat) (buf : Bytes) (start : Nat) : Prop :=
  start ≤ i ∧ i ≤ str.length ∧
    buf ++ (str.drop start).take (i - start) ++ appendJsonString (str.drop i) = buf0 ++ appendJsonString str

def Inv (buf0 str : Bytes) (st : Int × Bytes × Int) : Prop :=
  ∃ (i start : Nat) (buf : Bytes), st = ((i : Int), buf, (start : Int)) ∧ InvN buf0 str i buf start

theorem inv_esc {buf0 str : Bytes} {i start : Nat} {buf : Bytes} (h : InvN buf0 str i buf start)
    (k : Nat) (E : Bytes) (i' : Int) (hi : i' = (i : Int) + (k : Int)) (hk : i + k ≤ str.length)
    (hE : appendJsonString (str.drop i) = E ++ appendJsonString (str.drop (i + k))) :
    Inv buf0 str (i', buf ++ (str.drop start).take (i - start) ++ E, i') := by
  obtain ⟨h1, h2, h3⟩ := h
  subst hi
  refine ⟨i + k, i + k, buf ++ (str.drop start).take (i - start) ++ E, by simp, Nat.le_refl _, hk, ?_⟩
  rw [← h3, hE]
  simp [List.append_assoc]

theorem inv_copy {buf0 str : Bytes} {i start : Nat} {buf : Bytes} (h : InvN buf0 str i buf start)
    (k : Nat) (i' : Int) (hi : i' = (i : Int) + (k : Int)) (hk : i + k ≤ str.length)
    (hE : appendJsonString (str.drop i) = (str.drop i).take k ++ appendJsonString (str.drop (i + k))) :
    Inv buf0 str (i', buf, (start : Int)) := by
  obtain ⟨h1, h2, h3⟩ := h
  subst hi
  refine ⟨i + k, start, buf, by simp, by omega, hk, ?_⟩
  rw [← h3, hE]
  have e : i + k - start = (i - start) + k := by omega
  have e2 : start + (i - start) = i := by omega
  rw [e, List.take_add, List.drop_drop, e2]
  simp [List.append_assoc]

/-- the `switch b` of the translated loop selects the model's `escAscii b` -/
theorem switch_escAscii {β} (f : Bytes → β) (c : UInt8) :
    (if (c == 92 || c == 34) = true then f [92, c] else if (c == 10) = true then f [92, 110]
      else if (c == 13) = true then f [92, 114] else if (c == 9) = true then f [92, 116]
      else f [92, 117, 48, 48, hexAt (c.toNat / 16), hexAt (c.toNat % 16)]) = f (escAscii c) := by
  simp only [escAscii, apply_ite f]

/-- **Tie.** The translated `appendJsonString` appends exactly the model's escaped text, for every
    `buf` and `str`: it never panics and its loop never runs out of the translator's fuel. -/
theorem appendJsonString_eq (buf str : Bytes) :
    Glb.Tr.Logger.appendJsonString buf str = .ok (buf ++ Glb.JsonHandler.appendJsonString str) := by
  unfold Glb.Tr.Logger.appendJsonString
  dsimp only
  refine loop_inv_bind (Inv buf str) (fun st => ((str.length : Int) - st.1).toNat) ?_ ?_ ?_ ?_
  · rintro _ ⟨i, start, b, rfl, hI⟩
    have ⟨h1, h2, h3⟩ := hI
    simp only [StepInv, pure, Except.pure, len_eq]
    by_cases hn : i < str.length
    · have hn' : ((i : Int) < (str.length : Int)) := by omega
      obtain ⟨c, rest, hd⟩ : ∃ c rest, str.drop i = c :: rest := by
        cases h : str.drop i with
        | nil => have := length_of_drop_nil str i h; omega
        | cons c rest => exact ⟨c, rest, rfl⟩
      have hc := idx_drop str i c rest hd
      have hdk : ∀ k, 1 ≤ k → str.drop (i + k) = rest.drop (k - 1) := by
        intro k hk
        have : str.drop (i + k) = (str.drop i).drop k := by simp [List.drop_drop]
        rw [this, hd]
        cases k with
        | zero => omega
        | succ k => simp
      have hsl := slice_ok str start i h1 h2
      simp only [hn', decide_true, hc, bind, Except.bind, hsl]
      by_cases hb : c < 128
      · simp only [hb, decide_true, if_true, Tables.idx_safeSet c hb]
        have hajs := Glb.JsonString.ajs_ascii c rest hb
        by_cases hs : safe c = true
        · simp only [hs, if_true]
          refine ⟨inv_copy hI 1 _ rfl (by omega) ?_, by omega⟩
          rw [hdk 1 (by omega), hd, hajs]; simp [hs]
        · simp only [hs, Tables.idx_hex_hi, Tables.idx_hex_lo]
          simp only [Bool.false_eq_true, if_false]
          rw [switch_escAscii (fun E => Except.ok (Ctl.next ((i : Int) + 1,
            b ++ List.take (i - start) (List.drop start str) ++ E, (i : Int) + 1)))]
          refine ⟨inv_esc hI 1 _ _ rfl (by omega) ?_, by omega⟩
          rw [hdk 1 (by omega), hd, hajs]; simp [hs]
      · have hsf := sliceFrom_ok str i h2
        simp only [hb, decide_false, Bool.false_eq_true, if_false, hsf, hd, LibUtf8.decodeRuneInString]
        have hm := Glb.JsonString.ajs_multi c rest hb
        have hpos := Glb.Utf8.decodeRune_size_pos c rest
        have hle := Glb.Utf8.decodeRune_size_le (c :: rest)
        have hlen : (c :: rest).length = str.length - i := by rw [← hd]; simp
        generalize Glb.Utf8.decodeRune (c :: rest) = cs at hm hpos hle ⊢
        simp only at hm
        -- the conditions of the translated code, on `Int`, are those of the model, on `Nat`
        have cA : (((cs.1 : Int) == 65533) && ((cs.2 : Int) == 1)) = (cs.1 == Utf8.runeError && cs.2 == 1) := by
          rw [Bool.eq_iff_iff]
          simp only [Bool.and_eq_true, beq_iff_eq, Glb.Utf8.runeError]
          omega
        have cB : (((cs.1 : Int) == 8232) || ((cs.1 : Int) == 8233)) = (cs.1 == 0x2028 || cs.1 == 0x2029) := by
          rw [Bool.eq_iff_iff]
          simp only [Bool.or_eq_true, beq_iff_eq]
          omega
        simp only [cA, cB]
        by_cases hA : (cs.1 == Utf8.runeError && cs.2 == 1) = true
        · have h1 : cs.2 = 1 := by simp at hA; exact hA.2
          rw [if_pos hA] at hm
          simp only [hA, if_true]
          refine ⟨inv_esc hI cs.2 _ _ rfl (by omega) ?_, by omega⟩
          rw [hdk _ hpos, hd, hm, h1]; rfl
        · rw [if_neg hA] at hm
          simp only [hA]
          by_cases hB : (cs.1 == 0x2028 || cs.1 == 0x2029) = true
          · rw [if_pos hB] at hm
            have hx : idx Generated.hex (band (cs.1 : Int) 15) = .ok (hexAt (cs.1 % 16)) := by
              rcases (by simpa using hB : cs.1 = 0x2028 ∨ cs.1 = 0x2029) with e | e <;> rw [e] <;> rfl
            simp only [hB, if_true, hx]
            refine ⟨inv_esc hI cs.2 _ _ rfl (by omega) ?_, by omega⟩
            rw [hdk _ hpos, hd, hm]; rfl
          · rw [if_neg hB] at hm
            simp only [hB]
            refine ⟨inv_copy hI cs.2 _ rfl (by omega) ?_, by omega⟩
            rw [hdk _ hpos, hd, hm]
            obtain ⟨k, hk⟩ : ∃ k, cs.2 = k + 1 := ⟨cs.2 - 1, by omega⟩
            simp [hk]
    · have hn' : ¬ ((i : Int) < (str.length : Int)) := by omega
      simp [hn']
  · exact ⟨0, 0, buf, rfl, by simp [InvN]⟩
  · simp
  · rintro _ ⟨i, start, b, rfl, h1, h2, h3⟩ hc
    simp only [pure, Except.pure, len_eq] at hc
    have hge : ¬ ((i : Int) < (str.length : Int)) := by simpa using hc
    have e1 : str.drop i = [] := List.drop_of_length_le (by omega)
    have e2 : (str.drop start).take (i - start) = str.drop start :=
      List.take_of_length_le (by simp; omega)
    rw [e1, e2, Glb.JsonString.ajs_nil, List.append_nil] at h3
    simp only [bind, Except.bind, pure, Except.pure, sliceFrom_ok str start (by omega), h3]

end Glb.Tie.TrJsonString
