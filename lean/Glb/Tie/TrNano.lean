/-
  Tie of the TRANSLATED Nano handler code (/repo/logger/nano_handler.go: the recursive, fuel-indexed
  `appendNanoValue` :107, `WithAttrs` :47, `Handle` :69; regenerated into Glb/Generated/TrNano.lean on
  every run, at the level of values: the handler state is `pre`, `buf` starts as a parameter, clone /
  pool / lock / Write are left out; `slog.Value` accessors in Glb/Go/LibNano.lean) to the hand model
  of Glb/Model/NanoHandler.lean (`appendNanoValue` / `appendNanoValues` mutual structural, `H`,
  `withAttrs`, `handle`, `Rec`, `shortLevel`, `appendNanoSource`).

  `depth` is the nesting depth of the tree (leaf 1, group 1 + deepest child), so the fuel hypotheses
  only say that the fuel does not run out; `Nano_WithAttrs fuel` / `Nano_Handle fuel` pass `fuel`
  itself to `appendNanoValue`.  Full strength otherwise: every buffer, attribute tree (nested / empty
  groups), handler state, record, `addSource`, `pc`; `colorful` does not influence the translated
  `appendNanoValue` (colour off in the model; `Handle`/`WithAttrs` pass `false`).

  Panics: the only possible one is the level-label index of `appendShortLevel` (`labelList[level]`).
  Translated code and model panic on exactly the same levels (`level < 0 ∨ 19 < level`), but for
  `level < 0` the PAYLOAD differs (`.other "index<0"` of `Glb.Go.idxI` vs the model's
  `.other "index out of range (negative)"`), so `Nano_Handle_exact` is exact equality (ok-results and
  out-of-range panics with payload) under `0 ≤ r.level`, and `Nano_Handle_eq` is equality after
  `Except.toOption` for every level (ok-results agree, one side errs iff the other errs).

  Proof: the range loop over attributes is the same in all three functions (group members,
  `WithAttrs`, `Handle`; state `(i, buf)`): `range_loop` shows once, with `loop_range`, that it computes
  the model's `appendNanoValues`, given that each element's call agrees with the model.
  `appendNanoValue_eq` is by induction on the fuel (no structural induction on the nested inductive
  `Attr`) and supplies that premise from its induction hypothesis.  In `Handle` every `if` statement
  is the model's `if` on the buffer followed by the rest of the function, so the four are peeled off
  one at a time (a case split on the four conditions meets sixteen copies of the loop).
-/
import Glb.Go.Lemmas
import Glb.Go.LibNano
import Glb.Generated.TrNano
import Glb.Model.NanoHandler
import Glb.Tie.TrLogger
import Glb.Props.C03b

namespace Glb.Tie.TrNano
open Glb.Go Glb.NanoHandler Glb.Go.LibNano

mutual
/-- nesting depth of an attribute tree: a leaf is 1, a group is 1 + the deepest child -/
def depth : Attr → Nat
  | .leaf _ _ => 1
  | .group _ as => 1 + depthList as
def depthList : List Attr → Nat
  | [] => 0
  | a :: as => max (depth a) (depthList as)
end

theorem depth_pos (a : Attr) : 1 ≤ depth a := by
  cases a <;> simp [depth]

theorem depth_mem (as : List Attr) (a : Attr) (h : a ∈ as) : depth a ≤ depthList as := by
  induction as with
  | nil => cases h
  | cons b bs ih =>
    simp only [depthList]
    rcases List.mem_cons.1 h with h | h
    · subst h; omega
    · have := ih h; omega

/-- the loop `for _, a := range as { buf = appendNanoValue(buf, a.Value, …) }` as all three translated
    functions contain it (group members, `WithAttrs`, `Handle`; state `(i, buf)`): from index `i` it
    computes the model's `appendNanoValues buf (as.drop i)` -/
theorem range_loop {ρ} (fuel : Nat) (colorful : Bool) (as : List Attr)
    (hrec : ∀ (b : Bytes) (c : Attr), c ∈ as →
      Glb.Tr.Logger.appendNanoValue fuel b c colorful = .ok (Glb.NanoHandler.appendNanoValue b c))
    (buf : Bytes) :
    loop (ρ := ρ) ((0 : Int), buf) (len as - 0 + 2).toNat
      (fun st => pure (decide (st.1 < len as)))
      (fun st => do
        let a ← idx as st.1
        let b ← Glb.Tr.Logger.appendNanoValue fuel st.2 a colorful
        pure (Ctl.next (st.1, b)))
      (fun st => pure (st.1 + 1, st.2))
    = .ok (.inl ((as.length : Int), appendNanoValues buf as)) := by
  rw [loop_range as (fun st => st.1) (n := 0)
    (fun rest st => .ok (.inl ((as.length : Int), appendNanoValues st.2 rest)))]
  · rfl
  · intro _; rfl
  · intro ⟨i, b⟩ hi
    obtain rfl : i = as.length := hi
    rfl
  · intro ⟨i, b⟩ n c rest hi hd hc
    obtain rfl : i = n := hi
    have hm : c ∈ as := List.mem_of_mem_drop (hd ▸ List.mem_cons_self)
    simp only [RangeStep, hc, hrec b c hm, bind, Except.bind, pure, Except.pure, appendNanoValues, and_self]
  · rfl
  · omega
  · simp only [len_eq]; omega

/-- **the translated, recursive `appendNanoValue` is the hand model**, for every buffer and attribute
    tree, whenever the fuel is at least the nesting depth of the tree (so the fuel never runs out);
    the `colorful` flag does not influence the translated code (colour off in the model). -/
theorem appendNanoValue_eq (fuel : Nat) (buf : Bytes) (a : Attr) (colorful : Bool)
    (h : depth a ≤ fuel) :
    Glb.Tr.Logger.appendNanoValue fuel buf a colorful
      = .ok (Glb.NanoHandler.appendNanoValue buf a) := by
  induction fuel generalizing buf a colorful with
  | zero => have := depth_pos a; omega
  | succ fuel ih =>
    rw [Glb.Tr.Logger.appendNanoValue]
    cases a with
    | leaf k v =>
      simp [isGroup, leafBytes, Glb.NanoHandler.appendNanoValue, pure, Except.pure]
    | group k as =>
      have hrec (b : Bytes) (c : Attr) (hc : c ∈ as) :
          Glb.Tr.Logger.appendNanoValue fuel b c colorful
            = .ok (Glb.NanoHandler.appendNanoValue b c) := by
        have := depth_mem as c hc
        simp only [depth] at h
        exact ih b c colorful (by omega)
      rw [show isGroup (.group k as) = true from rfl, show groupOf (.group k as) = as from rfl]
      dsimp only
      rw [if_pos (show (true == true) = true from rfl), range_loop fuel colorful as hrec]
      rfl

/-- the form in which `range_loop` takes it: every member of a list the fuel covers -/
theorem appendNanoValue_mem (fuel : Nat) (colorful : Bool) (as : List Attr) (hf : depthList as ≤ fuel)
    (b : Bytes) (c : Attr) (hc : c ∈ as) :
    Glb.Tr.Logger.appendNanoValue fuel b c colorful = .ok (Glb.NanoHandler.appendNanoValue b c) :=
  appendNanoValue_eq fuel b c colorful (Nat.le_trans (depth_mem as c hc) hf)

theorem appendNanoValue_eq_depth (buf : Bytes) (a : Attr) (colorful : Bool) :
    Glb.Tr.Logger.appendNanoValue (depth a) buf a colorful
      = .ok (Glb.NanoHandler.appendNanoValue buf a) :=
  appendNanoValue_eq (depth a) buf a colorful (Nat.le_refl _)

/-- with fuel 0 the translated function reports `fuel` -/
theorem appendNanoValue_fuel0 (buf : Bytes) (a : Attr) (colorful : Bool) :
    Glb.Tr.Logger.appendNanoValue 0 buf a colorful = .error (.other "fuel") := by
  rw [Glb.Tr.Logger.appendNanoValue]

/-- **the translated `WithAttrs` is the model's `withAttrs`** on the handler state `pre`, for every
    handler state and attribute list (no panic), whenever the fuel covers the deepest tree -/
theorem Nano_WithAttrs_eq (fuel : Nat) (h : H) (as : List Attr) (hf : depthList as ≤ fuel) :
    Glb.Tr.Logger.Nano_WithAttrs fuel h.pre as = .ok ((withAttrs h as).pre, ()) := by
  unfold Glb.Tr.Logger.Nano_WithAttrs
  cases as with
  | nil => rfl
  | cons a as =>
    have hne : (len (a :: as) == 0) = false := by
      simp only [len_eq, List.length_cons, beq_eq_false_iff_ne]; omega
    dsimp only
    rw [hne, if_neg Bool.false_ne_true,
      range_loop fuel false (a :: as) (appendNanoValue_mem fuel false _ hf)]
    rfl

/-- **the translated `Handle` is the model's `handle`**, exact equality (bytes, and the out-of-range
    panic of the level label with its payload) for every handler state, record and `addSource`, under
    `0 ≤ r.level` (below that both sides panic, with different payloads: see `Nano_Handle_eq`);
    `r.hasPC` is the translated code's `pc > 0`, `r.line` the decimal text of its line number -/
theorem Nano_Handle_exact (fuel : Nat) (addSource : Bool) (h : H) (r : Rec) (pc lineNo : Int)
    (hpc : r.hasPC = decide (pc > 0)) (hline : r.line = Glb.Go.Lib.itoa lineNo)
    (hf : depthList r.attrs ≤ fuel) (hlevel : 0 ≤ r.level) :
    (Glb.Tr.Logger.Nano_Handle fuel [] addSource h.pre r.time r.level pc r.file lineNo r.msg
        r.attrs).map (·.1)
      = handle addSource h r := by
  unfold Glb.Tr.Logger.Nano_Handle
  -- the continuations of the four `if` statements, last first; each is one `if` of the model
  extract_lets b0 b1 b2 kEnd n i0 kAttrs kPre kMsg
  have hAttrs (b : Bytes) : kAttrs () b
      = .ok ((if r.attrs.length > 0 then appendNanoValues b r.attrs else b) ++ [10], ()) := by
    simp only [kAttrs, len_pos, n, i0,
      range_loop fuel false r.attrs (appendNanoValue_mem fuel false _ hf)]
    split <;> rfl
  have hPre (b : Bytes) : kPre () b = kAttrs () (if h.pre.length > 0 then b ++ h.pre else b) := by
    simp only [kPre, len_pos, apply_ite (kAttrs ())]
  have hMsg (b : Bytes) :
      kMsg () b = kPre () (if r.msg.length > 0 then b ++ 0x20 :: r.msg else b) := by
    simp only [kMsg, len_pos, apply_ite (kPre ()), List.append_assoc, List.singleton_append]
  rw [Glb.Tie.TrLogger.appendShortLevel_exact _ _ hlevel]
  unfold handle
  cases shortLevel r.level with
  | error e => rfl
  | ok lvl =>
    simp only [Glb.Tie.TrLogger.appendNanoSource_eq, Except.map, bind, Except.bind]
    rw [List.append_assoc (b2 ++ lvl), ← apply_ite (kMsg ()), hMsg, hPre, hAttrs, hpc, hline]
    rfl

/-- **the translated `Handle` is the model's `handle`** for ALL inputs (every level), as equality after
    `Except.toOption`: ok-results agree, and one side panics iff the other does (payload erased) -/
theorem Nano_Handle_eq (fuel : Nat) (addSource : Bool) (h : H) (r : Rec) (pc lineNo : Int)
    (hpc : r.hasPC = decide (pc > 0)) (hline : r.line = Glb.Go.Lib.itoa lineNo)
    (hf : depthList r.attrs ≤ fuel) :
    ((Glb.Tr.Logger.Nano_Handle fuel [] addSource h.pre r.time r.level pc r.file lineNo r.msg
        r.attrs).map (·.1)).toOption
      = (handle addSource h r).toOption := by
  by_cases hlevel : 0 ≤ r.level
  · rw [Nano_Handle_exact fuel addSource h r pc lineNo hpc hline hf hlevel]
  · -- both sides panic in their first effectful statement, the level label `labelList[l]`
    have hl : r.level < 0 := by omega
    have h2 : (handle addSource h r).toOption = none := by
      rw [handle, shortLevel, if_pos hl]
      rfl
    rw [h2]
    apply Glb.Tie.TrLevel.toOption_map_none
    unfold Glb.Tr.Logger.Nano_Handle
    refine Glb.Tie.TrLevel.toOption_bind_none _ ?_
    rw [Glb.Tie.TrLogger.appendShortLevel_eq, shortLevel, if_pos hl]
    rfl

/-- deepest attribute tree of a derivation chain (the fuel the translated `WithAttrs` calls need) -/
def chainDepth : List Deriv → Nat
  | [] => 0
  | .attrs as :: ds => max (depthList as) (chainDepth ds)
  | .group _ :: ds => chainDepth ds

/-- one derivation step with the TRANSLATED methods, on the handler state `pre`
    (`WithGroup` is `return h` in nano_handler.go: nothing to translate) -/
def trDerive (fuel : Nat) (pre : Bytes) : Deriv → M Bytes
  | .attrs as => (Glb.Tr.Logger.Nano_WithAttrs fuel pre as).map (·.1)
  | .group _ => pure pre

def trDeriveAll (fuel : Nat) (pre : Bytes) : List Deriv → M Bytes
  | [] => pure pre
  | d :: ds => trDerive fuel pre d >>= fun pre' => trDeriveAll fuel pre' ds

theorem trDeriveAll_eq (fuel : Nat) (h : H) (ds : List Deriv) (hf : chainDepth ds ≤ fuel) :
    trDeriveAll fuel h.pre ds = .ok (deriveAll h ds).pre := by
  induction ds generalizing h with
  | nil => rfl
  | cons d ds ih =>
    -- one step with the translated method is the model's `derive`, and the fuel covers the rest
    have hd : trDerive fuel h.pre d = .ok (derive h d).pre ∧ chainDepth ds ≤ fuel := by
      cases d with
      | attrs as =>
        simp only [chainDepth] at hf
        exact ⟨by simp only [trDerive, Nano_WithAttrs_eq fuel h as (by omega), Except.map, derive], by omega⟩
      | group g => exact ⟨rfl, hf⟩
    simp only [trDeriveAll, hd.1, bind, Except.bind]
    exact ih (derive h d) hd.2

theorem depthList_append (as bs : List Attr) :
    depthList (as ++ bs) = max (depthList as) (depthList bs) := by
  induction as with
  | nil => simp [depthList]
  | cons a as ih => simp only [List.cons_append, depthList, ih, Nat.max_assoc]

/-- **C03b `nano_with_law` for the translated code**: the translated `WithAttrs` followed by the
    translated `Handle` writes what the translated `Handle` of the original handler writes for the
    record with the attributes prepended (every handler state, attribute list, record; level ≥ 0 for
    the exact form — for negative levels both sides panic). -/
theorem nano_with_law_translated (fuel : Nat) (addSource : Bool) (h : H) (as : List Attr) (r : Rec)
    (pc lineNo : Int) (hpc : r.hasPC = decide (pc > 0)) (hline : r.line = Glb.Go.Lib.itoa lineNo)
    (hfa : depthList as ≤ fuel) (hf : depthList r.attrs ≤ fuel) (hlevel : 0 ≤ r.level) :
    (Glb.Tr.Logger.Nano_WithAttrs fuel h.pre as >>= fun st =>
        (Glb.Tr.Logger.Nano_Handle fuel [] addSource st.1 r.time r.level pc r.file lineNo r.msg
          r.attrs).map (·.1))
      = (Glb.Tr.Logger.Nano_Handle fuel [] addSource h.pre r.time r.level pc r.file lineNo r.msg
          (as ++ r.attrs)).map (·.1) := by
  rw [Nano_WithAttrs_eq fuel h as hfa]
  simp only [bind, Except.bind]
  rw [Nano_Handle_exact fuel addSource (withAttrs h as) r pc lineNo hpc hline hf hlevel]
  have hf2 : depthList ({ r with attrs := as ++ r.attrs } : Rec).attrs ≤ fuel := by
    simp only [depthList_append]; omega
  have := Nano_Handle_exact fuel addSource h { r with attrs := as ++ r.attrs } pc lineNo hpc hline
    hf2 hlevel
  dsimp only at this
  rw [this, Glb.C03b.nano_with_law]

end Glb.Tie.TrNano
