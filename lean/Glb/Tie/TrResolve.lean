/-
  Tie of the TRANSLATED `fsutil.ResolveUrlPath` (Glb/Generated/TrResolve.lean, rewritten from
  /repo/util/fsutil/path.go on every run by tools/extract/golean.go) to the byte-level model
  `PathCleanBytes.resolveUrlPathB`, which Props/C17b proves equal to the segment model the C17
  containment theorems are about: translated function = model, for every base and every URL path.
  (`path.Clean`, `filepath.Join/FromSlash` are the library transcriptions of Glb/Go/LibPath.lean,
  compared exhaustively with the real functions by the stream `fsutil` on every run.)
-/
import Glb.Go.Lemmas
import Glb.Go.LibPath
import Glb.Generated.TrResolve
import Glb.Model.PathCleanBytes

namespace Glb.Tie.TrResolve
open Glb.Go

theorem ResolveUrlPath_eq (base url : Bytes) :
    Glb.Tr.Fsutil.ResolveUrlPath base url = .ok (Glb.PathCleanBytes.resolveUrlPathB base url) := by
  cases url with
  | nil => rfl
  | cons c t =>
    -- the guard `rawUrlPath == "" || rawUrlPath[0] != '/'` reads index 0 of a non-empty string
    by_cases h : c = 47
    · subst h
      rfl
    · simp [Glb.Tr.Fsutil.ResolveUrlPath, bind, Except.bind, pure, Except.pure,
        Glb.PathCleanBytes.resolveUrlPathB, Glb.PathClean.forceSlash, Glb.PathClean.fromSlash,
        LibPath.join2, LibPath.fromSlash, LibPath.clean, Glb.PathClean.slash, idxI, Glb.idx?, h]

end Glb.Tie.TrResolve
