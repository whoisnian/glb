/-
  Tie of translated functions of `/repo/util/fsutil/path.go`, `/repo/util/netutil/ip.go`,
  `/repo/httpd/store.go` (`Params.Get`, `GetClientIP`) and `/repo/ansi/terminfo.go` (`ScrollUpN/DownN`)
  (Glb/Generated/Tr{Fsutil,Netutil,Httpd,Ansi}.lean, regenerated from the Go source on every run) to the
  hand-written models.  Every theorem is `translated function = model` for every input.
-/
import Glb.Go.Lemmas
import Glb.Go.LibPath
import Glb.Generated.TrFsutil
import Glb.Generated.TrNetutil
import Glb.Model.PathCleanBytes
import Glb.Model.AuxNetutil
import Glb.Generated.TrHttpd
import Glb.Model.Router
import Glb.Model.AuxHttpd
import Glb.Generated.TrAnsi
import Glb.Model.AuxFsutil
import Glb.Proofs.AuxFsutil
import Glb.Proofs.AuxNetutil
import Glb.Proofs.PathCleanBytes
import Glb.Proofs.Store

namespace Glb.Tie.TrMisc
open Glb.Go

/-! ### netutil.SplitHostPort

  Exact equality, panic payloads included: the only places where the payloads of `Glb.Go.idxI`/`slice`
  and of the model's `idxPred?`/`slicePred?` differ are `addr[i-1]` / `addr[1:i-1]` with `i = 0`, and
  these are only evaluated when `addr[0] == '['` and `addr[i] == ':'`, hence `i ≠ 0`.  (Neither side
  ever panics: `Glb.Aux.Net.split_total`.) -/

section SplitHostPort
open Glb.Aux.Net

theorem SplitHostPort_eq (addr : Bytes) :
    Glb.Tr.Netutil.SplitHostPort addr = Glb.Aux.Net.splitHostPort addr := by
  unfold Glb.Tr.Netutil.SplitHostPort
  dsimp only
  rw [loop_eq (σ := Int) (ρ := Bytes × Bytes)
    (Inv := fun i => ∃ k : Nat, i = k - 1 ∧ k ≤ addr.length ∧ colon ∉ addr.drop k)
    (measure := fun i => (i + 1).toNat)
    (model := fun _ => match lastColon addr with
      | none => .ok (.inl (-1))
      | some _ => splitHostPort addr >>= fun r => pure (.inr r))]
  · cases hlc : lastColon addr with
    | none => simp only [splitHostPort, hlc]; rfl
    | some j => simp only []; cases splitHostPort addr <;> rfl
  · intro _ ⟨k, hi, hk, hd⟩
    subst hi
    cases k with
    | zero => exact .exit rfl (by rw [(lastColon_none addr).mpr hd]; rfl)
    | succ n =>
      have hi : ((n + 1 : Nat) : Int) - 1 = n := by omega
      rw [hi]
      have hc0 : (pure (decide ((n : Int) ≥ 0)) : M Bool) = .ok true :=
        congrArg Except.ok (decide_eq_true (Int.natCast_nonneg n))
      by_cases hc : addr[n] = colon
      · have hlc : lastColon addr = some n := by
          have := lastColon_append (addr.take n) _ hd
          rwa [← hc, ← List.drop_eq_getElem_cons hk, List.take_append_drop, List.length_take,
            Nat.min_eq_left (Nat.le_of_lt hk)] at this
        refine stepOK_ret _ (splitHostPort addr) hc0 ?_ (by simp only [hlc])
        have hpos : 0 < addr.length := by omega
        have hsf : sliceFrom addr ((n : Int) + 1) = Glb.slice? addr (n + 1) addr.length := sliceFrom_nat addr (n + 1)
        have hs0 : slice addr 0 (n:Int) = Glb.slice? addr 0 n := slice_nat addr 0 n
        have h0 : Glb.idx? addr 0 = pure addr[0] := idx?_ok addr 0 hpos
        have h1 : Glb.idx? addr n = pure 58 := (idx?_ok addr n hk).trans (congrArg _ hc)
        simp only [splitHostPort, hlc, idx_int, idx_natlit, idxI_nat, h0, h1, hsf, hs0, pure_bind, bind_assoc, ite_bind,
          beq_iff_eq, if_true, show ∀ v : UInt8, (v == 93) = decide (v = rbr) from fun _ => rfl]
        by_cases hb : addr[0] = 91
        · obtain ⟨m, rfl⟩ : ∃ m, n = m + 1 := by
            cases n with
            | zero => exact absurd (hb.symm.trans hc) (by decide)
            | succ m => exact ⟨m, rfl⟩
          have hm : ((m + 1 : Nat) : Int) - 1 = m := by omega
          have hs1 : slice addr 1 (m : Int) = Glb.slice? addr 1 m := slice_nat addr 1 m
          simp only [hb, show (91 : UInt8) = lbr from rfl, hm, hs1, idxI_nat, idxPred?, slicePred?, Nat.add_sub_cancel, Nat.succ_ne_zero, if_false, if_true]
        · simp only [hb, show ¬ addr[0] = lbr from hb, if_false, Bool.false_eq_true]
      · have hc' : ¬ addr[n] = 58 := hc
        refine .next hc0 ⟨n, (n : Int) - 1, ?_, rfl, ⟨n, rfl, Nat.le_of_succ_le hk, ?_⟩, by omega, rfl⟩
        · simp only [idx_int, idxI_ok addr n hk, hc', bind, Except.bind, pure, Except.pure, beq_iff_eq, if_false]
        · rw [List.drop_eq_getElem_cons hk, List.mem_cons, not_or]
          exact ⟨fun e => hc e.symm, hd⟩
  · exact ⟨addr.length, rfl, Nat.le_refl _, by simp⟩
  · simp only [len_eq]; omega

end SplitHostPort

/-! ### httpd.(*Params).Get

  Exact equality (panic payloads included) with the specification `paramsGetSpec` below and with the
  model `Glb.Router.paramsGet` (which returns an `Option` instead of `(value, found)`). -/

/-- `(*Params).Get` returns `(value, found)`; the model `Glb.Router.paramsGet` an `Option` -/
def optPair : Option Bytes → Bytes × Bool
  | some v => (v, true)
  | none => ([], false)

def paramsGetSpec (K V : List Bytes) (key : Bytes) : M (Bytes × Bool) :=
  match Glb.Router.firstIdx key K with
  | some i => match Glb.idx? V i with
    | .ok v => .ok (v, true)
    | .error e => .error e
  | none => .ok ([], false)

theorem Params_Get_eq (K V : List Bytes) (key : Bytes) :
    Glb.Tr.Httpd.Params_Get K V key = paramsGetSpec K V key := by
  unfold Glb.Tr.Httpd.Params_Get
  dsimp only
  rw [loop_range K (fun i => i) (n := 0)
    (fun l i => match Glb.Router.firstIdx key l with
      | none => .ok (.inl (K.length : Int))
      | some j => match Glb.idx? V (i.toNat + j) with
        | .ok v => .ok (.inr (v, true))
        | .error e => .error e)]
  · simp only [bind, Except.bind, pure, Except.pure, Int.toNat_zero, List.drop_zero, paramsGetSpec, Nat.zero_add]
    cases Glb.Router.firstIdx key K with
    | none => rfl
    | some j => simp only []; cases Glb.idx? V j <;> rfl
  · intro _; rfl
  · intro i hi
    simp [Glb.Router.firstIdx, hi]
  · intro i n c rest hi _ hc
    subst hi
    simp only [RangeStep, hc, bind, Except.bind, pure, Except.pure, Glb.Router.firstIdx, beq_iff_eq,
      Int.toNat_natCast]
    by_cases h1 : c = key
    · simp only [h1, if_true, idx_int, idxI_nat, Nat.add_zero]
      cases Glb.idx? V n <;> rfl
    · simp only [h1, if_false, true_and]
      cases Glb.Router.firstIdx key rest with
      | none => rfl
      | some j => simp only [Option.map, Int.toNat_natCast_add_one, show n + (j + 1) = n + 1 + j by omega]
  · rfl
  · omega
  · simp only [len_eq]; omega

theorem Params_Get_eq_model (K V : List Bytes) (key : Bytes) :
    Glb.Tr.Httpd.Params_Get K V key = optPair <$> Glb.Router.paramsGet ⟨K, V⟩ key := by
  rw [Params_Get_eq]
  unfold paramsGetSpec Glb.Router.paramsGet
  cases Glb.Router.firstIdx key K with
  | none => rfl
  | some i => simp only []; cases Glb.idx? V i <;> rfl

theorem firstIdx_eq (key : Bytes) (K : List Bytes) :
    Glb.Router.firstIdx key K = K.findIdx? (· = key) := by
  induction K with
  | nil => rfl
  | cons k r ih => simp [Glb.Router.firstIdx, List.findIdx?_cons, ih]

/-- found: `i` is the first index with `K[i] = key`; the result is `V[i]`, a panic when `V` is too short -/
theorem Params_Get_found (K V : List Bytes) (key : Bytes) (i : Nat) (hi : i < K.length) (hk : K[i] = key)
    (hmin : ∀ j, j < i → K[j]? ≠ some key) :
    Glb.Tr.Httpd.Params_Get K V key =
      if h : i < V.length then .ok (V[i], true) else .error (.indexRange i V.length) := by
  have hf : Glb.Router.firstIdx key K = some i := by
    rw [firstIdx_eq, List.findIdx?_eq_some_iff_getElem]
    exact ⟨hi, decide_eq_true hk, fun j hj e =>
      hmin j hj (by rw [List.getElem?_eq_getElem (Nat.lt_trans hj hi), of_decide_eq_true e])⟩
  rw [Params_Get_eq, paramsGetSpec, hf]
  by_cases h : i < V.length <;> simp [h, Glb.idx?]

theorem Params_Get_absent (K V : List Bytes) (key : Bytes) (h : key ∉ K) :
    Glb.Tr.Httpd.Params_Get K V key = .ok ([], false) := by
  rw [Params_Get_eq_model, Glb.Router.paramsGet_unbound K V key h]; rfl

theorem Params_Get_nopanic (K V : List Bytes) (key : Bytes) (h : K.length ≤ V.length) :
    ∃ r, Glb.Tr.Httpd.Params_Get K V key = .ok r := by
  obtain ⟨r, hr⟩ := Glb.Store.paramsGet_ok K V h key
  exact ⟨optPair r, by rw [Params_Get_eq_model, hr]; rfl⟩

/-! ### httpd.(*Store).GetClientIP

  The translated function takes the three `Header.Get` results as parameters; the model reads them
  from a `Header`.  Exact equality (the only possible panics are those of `SplitHostPort`/`ip[:i]`,
  which never happen, and their payloads agree anyway). -/

section GetClientIP
open Glb.Aux.Httpd

theorem indexByte_eq_findIdx? (s : Bytes) (c : UInt8) :
    Glb.Aux.Httpd.indexByte s c = s.findIdx? (· == c) := by
  induction s with
  | nil => rfl
  | cons x s ih => simp [Glb.Aux.Httpd.indexByte, List.findIdx?_cons, ih]

theorem GetClientIP_eq (h : Header) (remote : Bytes) :
    Glb.Tr.Httpd.GetClientIP (get h xClientIP) (get h xForwardedFor) (get h xRealIP) remote
      = getClientIP h remote := by
  unfold Glb.Tr.Httpd.GetClientIP getClientIP
  simp only [SplitHostPort_eq, Lib.indexByte, indexByteFrom_eq, ← indexByte_eq_findIdx?, bne_iff_ne, ne_eq, Nat.zero_add,
    show (44 : UInt8) = comma from rfl]
  cases indexByte (get h xForwardedFor) comma with
  | none => rfl
  | some i =>
    have hi : ¬ (i : Int) = -1 := by omega
    simp only [hi, not_false_eq_true, if_true, sliceTo_nat]
end GetClientIP

/-! ### netutil.LastIP

  The translated function takes `masked` = the (non-nil) result of `cidr.IP.Mask(cidr.Mask)` as a
  parameter.  Exact equality with the model's loop, index panics (and their payloads) included. -/

section LastIP
open Glb.Aux.Net

theorem LastIP_eq (masked mask : Bytes) :
    Glb.Tr.Netutil.LastIP masked mask = lastIPLoop mask mask.length masked := by
  unfold Glb.Tr.Netutil.LastIP
  dsimp only
  rw [loop_eq (σ := Bytes × Int) (ρ := Bytes)
    (Inv := fun st => ∃ k : Nat, st.2 = k - 1)
    (measure := fun st => (st.2 + 1).toNat)
    (model := fun st => match lastIPLoop mask (st.2 + 1).toNat st.1 with
      | .ok r => .ok (.inl (r, -1))
      | .error e => .error e)]
  · simp only [len_eq, Int.sub_add_cancel, Int.toNat_natCast]
    cases lastIPLoop mask mask.length masked <;> rfl
  · intro ⟨ip, _⟩ ⟨k, hk⟩
    simp only at hk
    subst hk
    cases k with
    | zero => exact .exit rfl rfl
    | succ n =>
      have hi : ((n + 1 : Nat) : Int) - 1 = n := by omega
      simp only [StepOK, hi, Int.natCast_nonneg, decide_true, pure, Except.pure, idx_int, idxI_nat, bind, Except.bind,
        Int.toNat_natCast_add_one, lastIPLoop]
      cases hb : Glb.idx? ip n with
      | error e => rfl
      | ok b =>
        cases Glb.idx? mask n with
        | error e => rfl
        | ok m =>
          simp only [set_ok ip n _ (lt_of_idx?_ok ip n b hb), Int.sub_add_cancel, Int.toNat_natCast, and_true]
          exact ⟨⟨n, rfl⟩, by omega⟩
  · exact ⟨mask.length, rfl⟩
  · simp only [len_eq]; omega

/-- `Glb.Aux.Net.lastIP` (the whole `LastIP(cidr)`, with `cidr.IP.Mask(cidr.Mask)` modelled by `ipMask`;
    a nil result of `Mask` is the empty slice for the loop) expressed with the translated loop -/
theorem lastIP_eq (ip mask : Bytes) :
    lastIP ip mask =
      match ipMask ip mask with
      | none => (fun _ => none) <$> Glb.Tr.Netutil.LastIP [] mask
      | some r => some <$> Glb.Tr.Netutil.LastIP r mask := by
  unfold lastIP
  simp only [LastIP_eq]
  cases ipMask ip mask with
  | none => simp only []; cases lastIPLoop mask mask.length [] <;> rfl
  | some r => simp only []; cases lastIPLoop mask mask.length r <;> rfl
end LastIP

/-! ### fsutil.ExpandHomeDir

  The translated function takes the result of `os.UserHomeDir()` as the parameters `home`, `homeErr`
  (`homeErr` = "err != nil"); the model computes it from `$HOME` (`userHomeDir`).  `filepath.Clean/Join`
  of the translated code are the byte algorithm (`Glb.Go.LibPath`), those of the model the segment
  model; they are equal by `cleanBytes_eq` / `joinB_eq` (Proofs/PathCleanBytes).  Exact equality;
  neither side panics. -/

section ExpandHomeDir
open Glb.Aux.Home

/-- against the literal model (checked indices): the same reads in the same order -/
theorem ExpandHomeDir_eq (home raw : Bytes) :
    Glb.Tr.Fsutil.ExpandHomeDir raw (userHomeDir home).1 (userHomeDir home).2
      = expandHomeDir? home raw := by
  unfold Glb.Tr.Fsutil.ExpandHomeDir expandHomeDir?
  congr 1
  · have h1 : ((raw.length : Int) > 1) = (raw.length > 1) := propext (by omega)
    simp only [keepCond?, ite_bind, bind_assoc, pure_bind, idx_natlit, idxI_nat, len_eq, if_true, if_false, Bool.false_eq_true,
      beq_iff_eq, bne_iff_ne, decide_eq_true_eq, Int.natCast_eq_zero, h1, tilde, Glb.PathClean.slash,
      show ∀ v : UInt8, (v != 92) = decide (v ≠ backslash) from fun _ => decide_not.symm]
    -- the two sides differ only in their `Decidable` instances, which still name `tilde` and `slash`
    rfl
  · funext keep
    have h1 : (len raw == 1) = decide (raw.length = 1) := decide_eq_decide.mpr (by rw [len_eq]; omega)
    have h2 : sliceFrom raw 1 = Glb.slice? raw 1 raw.length := sliceFrom_nat raw 1
    simp only [LibPath.clean, LibPath.join2, Glb.PathCleanBytes.cleanBytes_eq, Glb.PathCleanBytes.joinB_eq, h1, h2,
      bind_assoc, pure_bind, Bool.bne_false]

/-- neither side panics -/
theorem ExpandHomeDir_eq_cases (home raw : Bytes) :
    Glb.Tr.Fsutil.ExpandHomeDir raw (userHomeDir home).1 (userHomeDir home).2
      = .ok (expandHomeDir home raw) := by
  rw [ExpandHomeDir_eq, expandHomeDir_eq]
end ExpandHomeDir

/-! ### ansi.ScrollUpN / ScrollDownN

  Total: `n.toNat` copies of ESC M / ESC D for every `n` (the guard `n <= 0` keeps
  `strings.Repeat` from its negative-count panic). -/

section Ansi

def copies (a b : UInt8) (n : Nat) : Bytes := (List.replicate n ([a, b] : Bytes)).flatten

theorem copies_length (a b : UInt8) (n : Nat) : (copies a b n).length = 2 * n := by
  simp only [copies, List.length_flatten, List.map_replicate, List.length_cons, List.length_nil,
    List.sum_replicate_nat, Nat.mul_comm]

/-- the common body of `ScrollUpN` / `ScrollDownN`: `strings.Repeat` of a two-byte sequence behind
    the guard `n <= 0` -/
theorem repeat_pair (a b : UInt8) (n : Int) :
    (do if decide (n ≤ 0) then return ([] : Bytes)
        return (← Lib.repeatBytes [a, b] n) : M Bytes) = .ok (copies a b n.toNat) := by
  by_cases h : n ≤ 0
  · simp only [h, decide_true, if_true, show n.toNat = 0 by omega]; rfl
  · simp only [h, decide_false, Lib.repeatBytes, show ¬ n < 0 by omega]; rfl

/-- never panics; `n.toNat` copies of ESC M (none for `n ≤ 0`) -/
theorem ScrollUpN_eq (n : Int) : Glb.Tr.Ansi.ScrollUpN n = .ok (copies 27 77 n.toNat) :=
  repeat_pair 27 77 n

theorem ScrollDownN_eq (n : Int) : Glb.Tr.Ansi.ScrollDownN n = .ok (copies 27 68 n.toNat) :=
  repeat_pair 27 68 n

theorem ScrollUpN_nonpos (n : Int) (h : n ≤ 0) : Glb.Tr.Ansi.ScrollUpN n = .ok [] := by
  rw [ScrollUpN_eq, Int.toNat_of_nonpos h]; rfl

theorem ScrollDownN_nonpos (n : Int) (h : n ≤ 0) : Glb.Tr.Ansi.ScrollDownN n = .ok [] := by
  rw [ScrollDownN_eq, Int.toNat_of_nonpos h]; rfl

theorem ScrollUpN_nat (n : Nat) :
    ∃ r, Glb.Tr.Ansi.ScrollUpN (n : Int) = .ok r ∧ r = copies 27 77 n ∧ r.length = 2 * n :=
  ⟨_, ScrollUpN_eq n, rfl, copies_length _ _ _⟩

theorem ScrollDownN_nat (n : Nat) :
    ∃ r, Glb.Tr.Ansi.ScrollDownN (n : Int) = .ok r ∧ r = copies 27 68 n ∧ r.length = 2 * n :=
  ⟨_, ScrollDownN_eq n, rfl, copies_length _ _ _⟩

end Ansi

end Glb.Tie.TrMisc
