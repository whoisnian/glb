/-
  Tie of the TRANSLATED IPv4Filter methods (Glb/Generated/TrFilter.lean, rewritten from
  /repo/util/netutil/filter.go on every run) to the hand model Glb/Model/Filter.lean that the C11
  theorems are about.  The code keeps 32 separate maps (`ipMaps[ones-1][key]`), the model one
  association list of `(ones, key)` pairs in insertion order, so the tie is a SIMULATION relation
  `CRel c s` between the Go receiver `c : C` (five fields) and the model state `s`, not an equality.

  Loops: the two scans of `Contains` are search loops (`Go.loop_search`: the result is `List.any`); the
  loops of `Remove` and of the migration in `Add` are counting loops (`Go.loop_count`) with an invariant
  on the slice or the maps being rewritten.  Lock calls are outside the translation (Props/C12b).
-/
import Glb.Go.Lemmas
import Glb.Generated.TrFilter
import Glb.Model.Filter
import Glb.Proofs.Filter
import Glb.Props.C11
import Glb.Tie.Filter

namespace Glb.Tie.TrFilter
open Glb.Go Glb.Filter

theorem ite_pure_and (b c : Bool) : (if b = true then (pure c : M Bool) else pure false) = pure (b && c) := by
  cases b <;> rfl

/-- the five receiver fields of the Go struct, as the translated methods see them -/
structure C where
  matchAll : Bool
  mode : BitVec 32
  index : Int
  ipList : List (List (BitVec 32))
  ipMaps : List (List (BitVec 32 × Bool))

/-- how a slot `[maskedAddr, ones]` of `ipList` is read by the model -/
def entry (e : List (BitVec 32)) : Addr × Nat := (e.getD 0 0, (e.getD 1 0).toNat)

structure CRel (c : C) (s : St) : Prop where
  matchAll : c.matchAll = s.matchAll
  mode : (c.mode = 0 ∧ s.mapsMode = false) ∨ (c.mode = 1 ∧ s.mapsMode = true)
  listLen : c.ipList.length = 256
  entryLen : ∀ e ∈ c.ipList, e.length = 2
  idx0 : 0 ≤ c.index
  idx1 : c.index ≤ 256
  mapsLen : c.ipMaps.length = 32
  list : s.list = (c.ipList.take c.index.toNat).map entry
  maps : s.mapsMode = true →
    ∀ n k, n < 32 → (mapHas (c.ipMaps.getD n []) k = true ↔ (n + 1, k) ∈ s.maps)
  wf : WF s

/-- the zero value of the Go struct, with `ipList` and `ipMaps` at their fixed lengths -/
def cinit : C := ⟨false, 0, 0, List.replicate 256 [0, 0], List.replicate 32 []⟩

theorem init_rel : CRel cinit init := by
  refine ⟨rfl, Or.inl ⟨rfl, rfl⟩, List.length_replicate .., ?_, Int.le_refl _, by decide,
    List.length_replicate .., ?_, ?_, wf_init⟩
  · intro e he
    rw [List.eq_of_mem_replicate he]; rfl
  · show ([] : List (Addr × Nat)) = (List.take 0 _).map entry
    rfl
  · intro h; cases h

theorem to4_eq (ip : Bytes) : Glb.Go.Lib.to4 ip = Glb.Filter.to4 ip := rfl

theorem to4_length (ip x : Bytes) (h : Glb.Filter.to4 ip = some x) : x.length = 4 := by
  unfold Glb.Filter.to4 at h
  split at h
  · cases h; assumption
  · split at h
    · rename_i h2
      cases h
      rw [List.length_drop, h2.1]
    · cases h

theorem be32_eq {ip : Bytes} (h : ip.length = 4) :
    Glb.Go.Lib.be32 ip = .ok (Glb.Filter.be32 ip) := by
  match ip, h with
  | [a, b, c, d], _ => rfl

theorem mapHas_mapPut {κ} [DecidableEq κ] (m : List (κ × Bool)) (k k' : κ) (v : Bool) :
    mapHas (mapPut m k v) k' = if k = k' then v else mapHas m k' := by
  induction m with
  | nil => rfl
  | cons e r ih => grind [mapPut, mapHas]

theorem mapHas_mapDel {κ} [DecidableEq κ] (m : List (κ × Bool)) (k k' : κ) :
    mapHas (mapDel m k) k' = if k = k' then false else mapHas m k' := by
  induction m with
  | nil => simp [mapDel, mapHas]
  | cons e r ih => grind [mapDel, mapHas]

/-- `ipList[i][k]` -/
theorem slot_get {L : List (List (BitVec 32))} {i : Nat} (hi : i < L.length) (hl : L[i].length = 2)
    (k : Nat) (hk : k < 2) :
    ((idx L (i : Int) >>= fun t => pure (idx t k)) >>= fun r => r) = .ok (L[i].getD k 0) := by
  rw [idx_ok L i hi]
  match L[i], hl, k, hk with
  | [p, q], _, 0, _ => rfl
  | [p, q], _, 1, _ => rfl

theorem toNat_pred {q : BitVec 32} (h : 0 < q.toNat) : (q - 1).toNat + 1 = q.toNat := by
  have h1 : (1 : BitVec 32) ≤ q := BitVec.le_def.2 h
  rw [BitVec.toNat_sub_of_le h1]
  exact Nat.sub_add_cancel h

theorem idx_mask (i : Nat) (h : i < 32) :
    idx Generated.ipv4Masks (i : Int) = .ok (maskOf (i + 1)) := by
  have hl : i < Generated.ipv4Masks.length := h
  rw [idx_ok _ _ hl, maskOf, Nat.add_sub_cancel, List.getD, List.getElem?_eq_getElem hl]
  rfl

/-- `ipv4Masks[ones-1]` for a `uint32` prefix length -/
theorem idx_mask_bv {q : BitVec 32} (h1 : 0 < q.toNat) (h2 : q.toNat ≤ 32) :
    idx Generated.ipv4Masks (q - 1) = .ok (maskOf q.toNat) := by
  have e := toNat_pred h1
  show idx Generated.ipv4Masks ((q - 1).toNat : Int) = _
  rw [idx_mask _ (by omega), e]

theorem bv_pos (q : BitVec 32) : decide (q > 0) = decide (0 < q.toNat) :=
  decide_eq_decide.2 BitVec.lt_def

variable {c : C} {s : St}

theorem CRel.slot (h : CRel c s) (i : Nat) (hi : i < s.list.length) :
    ∃ hL : i < c.ipList.length, c.ipList[i].length = 2 ∧ s.list[i] = entry c.ipList[i] ∧
      (c.ipList[i].getD 1 0).toNat ≤ 32 := by
  have hi' := hi
  rw [h.list, List.length_map, List.length_take] at hi'
  have hL : i < c.ipList.length := Nat.lt_of_lt_of_le hi' (Nat.min_le_right ..)
  have hs : s.list[i] = entry c.ipList[i] := by
    rw [List.getElem_of_eq h.list hi, List.getElem_map, List.getElem_take]
  exact ⟨hL, h.entryLen _ (List.getElem_mem hL), hs,
    (hs ▸ h.wf.list _ (List.getElem_mem hi) : (entry c.ipList[i]).2 ≤ 32)⟩

theorem CRel.index_eq (h : CRel c s) :
    ∃ N : Nat, c.index = N ∧ N ≤ 256 ∧ s.list.length = N := by
  have h1 : c.index.toNat ≤ 256 := Int.toNat_le.2 h.idx1
  refine ⟨c.index.toNat, (Int.toNat_of_nonneg h.idx0).symm, h1, ?_⟩
  rw [h.list, List.length_map, List.length_take, h.listLen]
  exact Nat.min_eq_left h1

/-- On related states the translated `Contains` returns the model's `contains`, for EVERY byte string
    `ip` (no length assumption; never panics). -/
theorem Contains_sim (c : C) (s : St) (h : CRel c s) (ip : Bytes) :
    Glb.Tr.Filter.Contains c.matchAll c.mode c.index c.ipList c.ipMaps ip
      = .ok (Glb.Filter.contains s ip) := by
  unfold Glb.Tr.Filter.Contains Glb.Filter.contains
  dsimp only
  rw [← h.matchAll, to4_eq]
  cases c.matchAll
  case true => rfl
  cases h4 : Glb.Filter.to4 ip with
  | none => rfl
  | some x =>
    simp only [Bool.false_eq_true, if_false, be32_eq (to4_length ip x h4), ok_bind]
    generalize Glb.Filter.be32 x = a
    rcases h.mode with ⟨hmode, hmm⟩ | ⟨hmode, hmm⟩
    · obtain ⟨N, hN, -, hlen⟩ := h.index_eq
      simp only [hmode, beq_self_eq_true, if_true, hN]
      rw [← hlen, loop_search s.list (fun e => decide (e.2 > 0) && (a &&& maskOf e.2 == e.1)) true
        rfl ?_ (fun _ => rfl) _ (by omega), scan, hmm]
      · cases s.list.any _ <;> rfl
      · intro i hi
        obtain ⟨hL, hl, hs, hq⟩ := h.slot i hi
        simp only [hs, slot_get hL hl, Nat.one_lt_two, Nat.zero_lt_two, ok_bind, pure_bind, bv_pos, entry]
        by_cases hpos : 0 < (c.ipList[i].getD 1 0).toNat
        · simp only [hpos, decide_true, if_true, idx_mask_bv hpos hq, ok_bind, pure_bind, Bool.true_and, band]
          cases a &&& maskOf _ == _ <;> rfl
        · simp only [hpos, decide_false, Bool.false_eq_true, if_false, Bool.false_and]
          rfl
    · simp only [hmode, BitVec.reduceBEq, Bool.false_eq_true, if_false]
      rw [loop_search (List.range 32) (fun i => s.maps.contains (i + 1, a &&& maskOf (i + 1))) true
        ?_ ?_ (fun _ => rfl) _ (by decide), scan, hmm]
      · cases (List.range 32).any _ <;> rfl
      · rfl
      · intro i hi
        have hi32 : i < 32 := List.length_range (n := 32) ▸ hi
        have hiM : i < c.ipMaps.length := h.mapsLen.symm ▸ hi32
        have hm : mapHas c.ipMaps[i] (a &&& maskOf (i + 1)) =
            s.maps.contains (i + 1, a &&& maskOf (i + 1)) := by
          rw [List.getElem_eq_getD [], Bool.eq_iff_iff, List.contains_iff_mem]
          exact h.maps hmm i _ hi32
        simp only [idx_ok _ _ hiM, idx_mask i hi32, ok_bind, pure_bind, band, hm, List.getElem_range]
        cases s.maps.contains _ <;> rfl

/-- the result tuple of `Add`/`Remove` -/
def C.tuple (c : C) (err : Bool) :
    Bool × BitVec 32 × Int × List (List (BitVec 32)) × List (List (BitVec 32 × Bool)) × Bool :=
  (c.matchAll, c.mode, c.index, c.ipList, c.ipMaps, err)


theorem idxI_getD {α} {s : List α} {n : Nat} (d : α) (h : n < s.length) :
    idxI s (n : Int) = .ok (s.getD n d) := by
  rw [idxI_ok s n h, List.getElem_eq_getD d]

theorem getD_set {α} {M : List α} {d v : α} {j m : Nat} (hj : j < M.length) :
    (M.set j v).getD m d = if m = j then v else M.getD m d := by
  simp only [List.getD, List.getElem?_set, hj, if_true, eq_comm (a := j)]
  split <;> rfl

/-- `L` is `l` with `g` mapped over the first `n` elements in place: slot `n` is still the old one,
    and storing `g L[n]` there is the step to `n + 1` -/
theorem take_map_drop {α} {l L : List α} {g : α → α} {n : Nat} (hn : n < l.length)
    (hL : L = (l.take n).map g ++ l.drop n) :
    ∃ h : n < L.length, L[n] = l[n] ∧ (l.take (n + 1)).map g ++ l.drop (n + 1) = L.set n (g L[n]) := by
  subst hL
  induction l generalizing n with
  | nil => cases hn
  | cons a l ih =>
    cases n with
    | zero => exact ⟨hn, rfl, rfl⟩
    | succ n =>
      obtain ⟨h, e, hs⟩ := ih (Nat.lt_of_succ_lt_succ hn)
      exact ⟨Nat.succ_lt_succ h, e, congrArg (g a :: ·) hs⟩

/-- the 32 Go maps `M` hold exactly the pairs `(ones, key)` of `X` (the relation `CRel.maps`) -/
def MapsRel (M : List (List (BitVec 32 × Bool))) (X : List (Nat × Addr)) : Prop :=
  ∀ n k, n < 32 → (mapHas (M.getD n []) k = true ↔ (n + 1, k) ∈ X)

/-- `ipMaps[j][key] = true` -/
theorem MapsRel.insert {M : List (List (BitVec 32 × Bool))} {X : List (Nat × Addr)}
    (h : MapsRel M X) (hM : M.length = 32) {j : Nat} (hj : j < 32) (key : Addr) :
    MapsRel (M.set j (mapPut (M.getD j []) key true)) (mapsInsert X (j + 1, key)) := by
  intro m k hm
  rw [getD_set (hM.symm ▸ hj), mem_mapsInsert, ← h m k hm, Prod.mk.injEq,
    Nat.add_right_cancel_iff]
  by_cases hmj : m = j
  · subst hmj; simp [mapHas_mapPut, eq_comm (a := key), or_comm]
  · simp [hmj]

/-- `delete(ipMaps[j], key)` -/
theorem MapsRel.erase {M : List (List (BitVec 32 × Bool))} {X : List (Nat × Addr)}
    (h : MapsRel M X) (hM : M.length = 32) {j : Nat} (hj : j < 32) (key : Addr) :
    MapsRel (M.set j (mapDel (M.getD j []) key)) (X.filter fun e => !(e == (j + 1, key))) := by
  intro m k hm
  rw [getD_set (hM.symm ▸ hj), List.mem_filter, ← h m k hm]
  by_cases hmj : m = j
  · subst hmj; simp [mapHas_mapDel, eq_comm (a := key), and_comm]
  · simp [hmj]

/-- the last statement of `Add`/`Remove` in maps mode, `ipMaps[j] = op(ipMaps[j])`, when the new
    maps `M` are related to those of `s'` -/
theorem CRel.write {s' : St} (h : CRel c s) {M : List (List (BitVec 32 × Bool))}
    (hM : M.length = 32) {j : Nat} (hj : j < 32) {op : List (BitVec 32 × Bool) → List (BitVec 32 × Bool)}
    (h1 : s'.matchAll = s.matchAll) (h2 : s'.mapsMode = true) (h3 : s'.list = s.list)
    (hrel : MapsRel (M.set j (op (M.getD j []))) s'.maps) (hwf : WF s') :
    ∃ c', (idx M (j : Int) >>= fun t => Go.set M (j : Int) (op t) >>= fun M' =>
        pure (c.matchAll, (1 : BitVec 32), c.index, c.ipList, M', false)) = .ok (c'.tuple false) ∧
      CRel c' s' := by
  have hjM : j < M.length := hM.symm ▸ hj
  rw [idx_int, idxI_getD [] hjM, ok_bind, set_ok M j _ hjM]
  exact ⟨⟨c.matchAll, 1, c.index, c.ipList, _⟩, rfl, h.matchAll.trans h1.symm, Or.inr ⟨rfl, h2⟩,
    h.listLen, h.entryLen, h.idx0, h.idx1, List.length_set.trans hM, h3.trans h.list, fun _ => hrel, hwf⟩

theorem CRel.withList (h : CRel c s) (hmm : s.mapsMode = false)
    {L : List (List (BitVec 32))} {N : Nat} {l : List (Addr × Nat)} (hL : L.length = 256)
    (he : ∀ e ∈ L, e.length = 2) (hN : N ≤ 256) (hl : l = (L.take N).map entry)
    (hwf : WF { s with list := l }) : CRel ⟨c.matchAll, 0, N, L, c.ipMaps⟩ { s with list := l } :=
  ⟨h.matchAll, Or.inl ⟨rfl, hmm⟩, hL, he, Int.natCast_nonneg N, Int.ofNat_le.2 hN, h.mapsLen, hl,
    fun hmt => Bool.noConfusion (hmm.symm.trans hmt), hwf⟩

theorem args_ok (ipb : Bytes) (hl : ipb.length = 4) (n : Int) (h2 : n ≤ 32) :
    ((32 : Int) != 32 || decide (n > 32) || len ipb != 4) = false := by
  simp [Int.not_lt.2 h2, hl]

theorem args_bad (ipb : Bytes) (ones0 bits0 : Int)
    (hbad : bits0 ≠ 32 ∨ ones0 > 32 ∨ ipb.length ≠ 4) :
    (bits0 != 32 || decide (ones0 > 32) || len ipb != 4) = true := by
  simp only [len_eq, Bool.or_eq_true, bne_iff_ne, ne_eq, decide_eq_true_eq]
  omega

theorem succ_sub_one (j : Nat) : ((j + 1 : Nat) : Int) - 1 = j := by omega

theorem succ_beq_zero (j : Nat) : (((j + 1 : Nat) : Int) == 0) = false := by
  rw [beq_eq_false_iff_ne]; omega

theorem toBV32_beq {n : Nat} (hn : n ≤ 32) (q : BitVec 32) :
    (ToBV32.toBV32 (n : Int) == q) = decide (n = q.toNat) := by
  show (BitVec.ofInt 32 (n : Int) == q) = _
  rw [BitVec.ofInt_natCast, Bool.eq_iff_iff, beq_iff_eq, decide_eq_true_eq, ← BitVec.toNat_inj,
    BitVec.toNat_ofNat, Nat.mod_eq_of_lt (by omega)]

/-- what `Remove` does to one slot of `ipList` -/
def clr (n : Nat) (key : Addr) (e : List (BitVec 32)) : List (BitVec 32) :=
  if decide (n = (e.getD 1 0).toNat) && (key == e.getD 0 0) then [0, 0] else e

theorem entry_clr (n : Nat) (key : Addr) (e : List (BitVec 32)) :
    entry (clr n key e) = if n = (entry e).2 ∧ key = (entry e).1 then (0, 0) else entry e := by
  simp only [clr, apply_ite entry, Bool.and_eq_true, decide_eq_true_eq, beq_iff_eq]
  rfl

/-- On related states, with a 4-byte address and `1 ≤ n ≤ 32`, the translated `Remove` does not
    panic, returns a nil error, and leaves a receiver related to the model's `removeCore`. -/
theorem Remove_sim (c : C) (s : St) (h : CRel c s) (ipb : Bytes) (hl : ipb.length = 4)
    (n : Nat) (h1 : 1 ≤ n) (h2 : n ≤ 32) :
    ∃ c', Glb.Tr.Filter.Remove c.matchAll c.mode c.index c.ipList c.ipMaps ipb n 32
        = .ok (c'.tuple false) ∧ CRel c' (removeCore s (Glb.Filter.be32 ipb) n) := by
  unfold Glb.Tr.Filter.Remove
  dsimp only
  obtain ⟨j, rfl⟩ := Nat.exists_eq_add_one.2 h1
  simp only [args_ok ipb hl _ (Int.ofNat_le.2 h2), succ_beq_zero, Bool.false_eq_true, if_false, be32_eq hl,
    ok_bind, succ_sub_one, idx_mask j h2, pure_bind, band, setG, ToInt.toInt]
  generalize Glb.Filter.be32 ipb = a
  have hwf := wf_removeCore (a := a) (n := j + 1) h.wf
  rcases h.mode with ⟨hmode, hmm⟩ | ⟨hmode, hmm⟩
  · obtain ⟨N, hN, hN256, -⟩ := h.index_eq
    have hLlen := h.listLen
    simp only [hmode, beq_self_eq_true, if_true, hN]
    refine loop_count (fun r => ∃ c', r = .ok (c'.tuple false) ∧ CRel c' (removeCore s a (j + 1))) N
      (fun i L => L = (c.ipList.take i).map (clr (j + 1) (a &&& maskOf (j + 1))) ++ c.ipList.drop i)
      (fun _ _ _ => rfl) ?_ rfl rfl (by omega) ?_
    · intro L i hi hL
      have hiL0 : i < c.ipList.length := by omega
      obtain ⟨hiL, hLi, hstep⟩ := take_map_drop hiL0 hL
      have hl2 : L[i].length = 2 := hLi ▸ h.entryLen _ (List.getElem_mem hiL0)
      simp only [slot_get hiL hl2, Nat.one_lt_two, Nat.zero_lt_two, ok_bind, pure_bind,
        toBV32_beq h2, ite_pure_and]
      cases hd : decide (j + 1 = (L[i].getD 1 0).toNat) && (a &&& maskOf (j + 1) == L[i].getD 0 0)
      · exact ⟨L, rfl, by simp only [hstep, clr, hd, Bool.false_eq_true, if_false, List.set_getElem_self]⟩
      · exact ⟨L.set i [0, 0], by simp only [if_true, set_ok L i _ hiL, ok_bind]; rfl, by rw [hstep, clr, hd]; rfl⟩
    · intro L hL
      rw [removeCore_list hmm] at hwf ⊢
      refine ⟨_, rfl, h.withList hmm ?_ ?_ hN256 ?_ hwf⟩
      · rw [hL]; simp; omega
      · intro e he
        rw [hL, List.mem_append, List.mem_map] at he
        rcases he with ⟨e', he', rfl⟩ | he
        · unfold clr; split
          · rfl
          · exact h.entryLen _ (List.mem_of_mem_take he')
        · exact h.entryLen _ (List.mem_of_mem_drop he)
      · rw [hL, List.take_left' (by simp; omega), h.list, hN, Int.toNat_natCast, List.map_map, List.map_map]
        exact List.map_congr_left fun e _ => (entry_clr _ _ e).symm
  · simp only [hmode, BitVec.reduceBEq, Bool.false_eq_true, if_false]
    rw [removeCore_maps hmm] at hwf ⊢
    exact h.write h.mapsLen h2 rfl hmm rfl (MapsRel.erase (h.maps hmm) h.mapsLen h2 _) hwf

/-- invalid arguments: `ErrInvalidIPv4CIDR`, nothing changes (no `CRel` needed) -/
theorem Remove_invalid (c : C) (ipb : Bytes) (ones0 bits0 : Int)
    (hbad : bits0 ≠ 32 ∨ ones0 > 32 ∨ ipb.length ≠ 4) :
    Glb.Tr.Filter.Remove c.matchAll c.mode c.index c.ipList c.ipMaps ipb ones0 bits0
      = .ok (c.tuple true) := by
  unfold Glb.Tr.Filter.Remove
  dsimp only
  simp only [args_bad ipb ones0 bits0 hbad, if_true]
  rfl

/-- `0.0.0.0/0`: only the `matchAll` flag is cleared -/
theorem Remove_zero (c : C) (ipb : Bytes) (hl : ipb.length = 4) :
    Glb.Tr.Filter.Remove c.matchAll c.mode c.index c.ipList c.ipMaps ipb 0 32
      = .ok (({ c with matchAll := false } : C).tuple false) := by
  unfold Glb.Tr.Filter.Remove
  dsimp only
  simp only [args_ok ipb hl 0 (by decide), Bool.false_eq_true, if_false, beq_self_eq_true, if_true]
  rfl

theorem migrate_take_succ {l : List (Addr × Nat)} {i : Nat} (hi : i < l.length) :
    migrate (l.take (i + 1)) =
      if l[i].2 > 0 then mapsInsert (migrate (l.take i)) (l[i].2, l[i].1) else migrate (l.take i) := by
  rw [migrate, List.take_add_one, List.getElem?_eq_getElem hi, List.foldl_append]
  rfl

/-- On related states, with a 4-byte address and `1 ≤ n ≤ 32`, the translated `Add` does not panic,
    returns a nil error, and leaves a receiver related to the model's `addCore 256` (256 =
    `listSize`); the list→maps migration loop of `Add` is related to the model's `migrate`. -/
theorem Add_sim (c : C) (s : St) (h : CRel c s) (ipb : Bytes) (hl : ipb.length = 4)
    (n : Nat) (h1 : 1 ≤ n) (h2 : n ≤ 32) :
    ∃ c', Glb.Tr.Filter.Add c.matchAll c.mode c.index c.ipList c.ipMaps ipb n 32
        = .ok (c'.tuple false) ∧ CRel c' (addCore 256 s (Glb.Filter.be32 ipb) n) := by
  unfold Glb.Tr.Filter.Add
  dsimp only
  obtain ⟨j, rfl⟩ := Nat.exists_eq_add_one.2 h1
  simp only [args_ok ipb hl _ (Int.ofNat_le.2 h2), succ_beq_zero, Bool.false_eq_true, if_false, be32_eq hl,
    ok_bind, succ_sub_one, idx_mask j h2, pure_bind, band, setG, ToInt.toInt]
  generalize Glb.Filter.be32 ipb = a
  have hwf := wf_addCore (ls := 256) (a := a) h1 h2 h.wf
  rcases h.mode with ⟨hmode, hmm⟩ | ⟨hmode, hmm⟩
  · obtain ⟨N, hN, hN256, hslen⟩ := h.index_eq
    have hLlen := h.listLen
    simp only [hmode, beq_self_eq_true, if_true, show (Generated.listSize : Int) = 256 from rfl, hN]
    by_cases hlt : N < 256
    · rw [if_pos (decide_eq_true (by omega : (N : Int) < 256)), set_ok c.ipList N _ (hLlen.symm ▸ hlt)]
      rw [addCore_list hmm (hslen.symm ▸ hlt)] at hwf ⊢
      refine ⟨_, rfl, h.withList (N := N + 1) hmm (List.length_set.trans hLlen) ?_ hlt ?_ hwf⟩
      · intro e he
        rcases List.mem_or_eq_of_mem_set he with he | rfl
        · exact h.entryLen e he
        · rfl
      · rw [List.take_add_one, List.take_set_of_le (Nat.le_refl _), h.list, hN]
        simp [hLlen, hlt, entry, ToBV32.toBV32]
        omega
    · rw [if_neg (by rw [decide_eq_true_eq]; omega)]
      refine loop_count (fun r => ∃ c', r = .ok (c'.tuple false) ∧ CRel c' (addCore 256 s a (j + 1))) 32
        (fun i M => M.length = 32 ∧ ∀ m, m < i → M.getD m [] = [])
        (fun M i hI => by rw [len_eq, hI.1]; rfl) ?_ rfl
        ⟨h.mapsLen, fun m hm => absurd hm (Nat.not_lt_zero m)⟩ (by rw [len_eq, h.mapsLen]; decide) ?_
      · intro M i hi ⟨hM, hMe⟩
        simp only [set_ok M i _ (hM.symm ▸ hi), ok_bind]
        refine ⟨_, rfl, List.length_set.trans hM, fun m hm => ?_⟩
        rw [getD_set (hM.symm ▸ hi)]
        split
        · rfl
        · exact hMe m (by omega)
      · intro M ⟨hM, hMe⟩
        dsimp only
        refine loop_count (fun r => ∃ c', r = .ok (c'.tuple false) ∧ CRel c' (addCore 256 s a (j + 1))) N
          (fun i M => M.length = 32 ∧ MapsRel M (migrate (s.list.take i)))
          (fun _ _ _ => rfl) ?_ rfl
          ⟨hM, fun m k hm => by rw [hMe m hm]; exact iff_of_false Bool.false_ne_true List.not_mem_nil⟩
          (by omega) ?_
        · intro M i hi ⟨hM, hrel⟩
          have hi' : i < s.list.length := hslen.symm ▸ hi
          obtain ⟨hL, hl2, hs, hq⟩ := h.slot i hi'
          simp only [slot_get hL hl2, Nat.one_lt_two, Nat.zero_lt_two, ok_bind, pure_bind, bv_pos,
            migrate_take_succ hi', hs, entry, gt_iff_lt]
          by_cases hpos : 0 < (c.ipList[i].getD 1 0).toNat
          · have e := toNat_pred hpos
            have hlt : (c.ipList[i].getD 1 0 - 1).toNat < M.length := by omega
            simp only [hpos, decide_true, if_true, idx, ToInt.toInt, idxI_getD [] hlt, set_ok _ _ _ hlt,
              ok_bind]
            exact ⟨_, rfl, List.length_set.trans hM, e ▸ hrel.insert hM (by omega) _⟩
          · simp only [hpos, decide_false, Bool.false_eq_true, if_false]
            exact ⟨_, rfl, hM, hrel⟩
        · intro M ⟨hM, hrel⟩
          rw [List.take_of_length_le (Nat.le_of_eq hslen)] at hrel
          rw [addCore_migrate hmm (hslen.symm ▸ hlt)] at hwf ⊢
          rw [← hN]
          exact h.write hM h2 rfl rfl rfl (hrel.insert hM h2 _) hwf
  · simp only [hmode, BitVec.reduceBEq, Bool.false_eq_true, if_false]
    rw [addCore_maps hmm] at hwf ⊢
    exact h.write h.mapsLen h2 rfl hmm rfl (MapsRel.insert (h.maps hmm) h.mapsLen h2 _) hwf

/-- invalid arguments: `ErrInvalidIPv4CIDR`, nothing changes (no `CRel` needed) -/
theorem Add_invalid (c : C) (ipb : Bytes) (ones0 bits0 : Int)
    (hbad : bits0 ≠ 32 ∨ ones0 > 32 ∨ ipb.length ≠ 4) :
    Glb.Tr.Filter.Add c.matchAll c.mode c.index c.ipList c.ipMaps ipb ones0 bits0
      = .ok (c.tuple true) := by
  unfold Glb.Tr.Filter.Add
  dsimp only
  simp only [args_bad ipb ones0 bits0 hbad, if_true]
  rfl

/-- `0.0.0.0/0`: only the `matchAll` flag is set -/
theorem Add_zero (c : C) (ipb : Bytes) (hl : ipb.length = 4) :
    Glb.Tr.Filter.Add c.matchAll c.mode c.index c.ipList c.ipMaps ipb 0 32
      = .ok (({ c with matchAll := true } : C).tuple false) := by
  unfold Glb.Tr.Filter.Add
  dsimp only
  simp only [args_ok ipb hl 0 (by decide), Bool.false_eq_true, if_false, beq_self_eq_true, if_true]
  rfl

open Glb.C11 (Op)

/-- the receiver after a call, and whether `ErrInvalidIPv4CIDR` was returned -/
def ofTuple (t : Bool × BitVec 32 × Int × List (List (BitVec 32)) × List (List (BitVec 32 × Bool)) × Bool) :
    C × Bool :=
  (⟨t.1, t.2.1, t.2.2.1, t.2.2.2.1, t.2.2.2.2.1⟩, t.2.2.2.2.2)

theorem ofTuple_tuple (c : C) (b : Bool) : ofTuple (c.tuple b) = (c, b) := rfl

/-- one byte-level operation (`cidr.IP`, `cidr.Mask`) through the TRANSLATED methods;
    `ones, bits := cidr.Mask.Size()` is the model's `maskSize` -/
def trStep (c : C) : Op → M (C × Bool)
  | .add ip mask =>
    ofTuple <$> Glb.Tr.Filter.Add c.matchAll c.mode c.index c.ipList c.ipMaps ip
      ((maskSize mask).1 : Int) ((maskSize mask).2 : Int)
  | .remove ip mask =>
    ofTuple <$> Glb.Tr.Filter.Remove c.matchAll c.mode c.index c.ipList c.ipMaps ip
      ((maskSize mask).1 : Int) ((maskSize mask).2 : Int)

def trRunFrom (c : C) : List Op → M C
  | [] => .ok c
  | op :: ops => trStep c op >>= fun r => trRunFrom r.1 ops

def trRun (ops : List Op) : M C := trRunFrom cinit ops

def modelRunFrom (s : St) (ops : List Op) : St := ops.foldl (fun s op => (Glb.C11.step 256 s op).1) s

def modelRun (ops : List Op) : St := modelRunFrom init ops

theorem CRel_matchAll (h : CRel c s) (b : Bool) :
    CRel { c with matchAll := b } { s with matchAll := b } :=
  ⟨rfl, h.mode, h.listLen, h.entryLen, h.idx0, h.idx1, h.mapsLen, h.list, h.maps,
    ⟨h.wf.list, h.wf.maps⟩⟩

/-- one operation: the translated method does not panic, reports an error exactly when the model
    rejects the arguments, and the new states are related -/
theorem step_sim (c : C) (s : St) (h : CRel c s) (op : Op) :
    ∃ c', trStep c op = .ok (c', !(Glb.C11.step 256 s op).2) ∧ CRel c' (Glb.C11.step 256 s op).1 := by
  cases op with
  | add ip mask =>
    simp only [trStep, Glb.C11.step, Glb.Filter.add]
    rcases validate_cases ip mask with ⟨hv, hbad⟩ | ⟨hv, hm, hl⟩ | ⟨n, hv, hm, hl, h1, h2⟩
    · rw [hv, Add_invalid c ip _ _ hbad]
      exact ⟨c, rfl, h⟩
    · rw [hv, hm]
      exact ⟨_, congrArg _ (Add_zero c ip hl), CRel_matchAll h true⟩
    · obtain ⟨c', hc', hrel⟩ := Add_sim c s h ip hl n h1 h2
      rw [hv, hm]
      exact ⟨c', congrArg _ hc', hrel⟩
  | remove ip mask =>
    simp only [trStep, Glb.C11.step, Glb.Filter.remove]
    rcases validate_cases ip mask with ⟨hv, hbad⟩ | ⟨hv, hm, hl⟩ | ⟨n, hv, hm, hl, h1, h2⟩
    · rw [hv, Remove_invalid c ip _ _ hbad]
      exact ⟨c, rfl, h⟩
    · rw [hv, hm]
      exact ⟨_, congrArg _ (Remove_zero c ip hl), CRel_matchAll h false⟩
    · obtain ⟨c', hc', hrel⟩ := Remove_sim c s h ip hl n h1 h2
      rw [hv, hm]
      exact ⟨c', congrArg _ hc', hrel⟩

theorem run_sim_from (ops : List Op) (c : C) (s : St) (h : CRel c s) :
    ∃ c', trRunFrom c ops = .ok c' ∧ CRel c' (modelRunFrom s ops) := by
  induction ops generalizing c s with
  | nil => exact ⟨c, rfl, h⟩
  | cons op ops ih =>
    obtain ⟨c1, h1, hrel1⟩ := step_sim c s h op
    obtain ⟨c2, h2, hrel2⟩ := ih c1 _ hrel1
    exact ⟨c2, by simp only [trRunFrom, h1, ok_bind, h2], hrel2⟩

/-- **the translated `Add`/`Remove` never panic** on any sequence of byte-level operations from the
    initial state, and the final Go state is related to the model's final state -/
theorem run_sim (ops : List Op) :
    ∃ c', trRun ops = .ok c' ∧ CRel c' (modelRun ops) :=
  run_sim_from ops cinit init init_rel

/-- **C11 for the translated code (observable form)**: after any operation sequence the translated
    `Contains` returns exactly the model's `contains` of the model's state, for every byte string -/
theorem C11_translated (ops : List Op) (ip : Bytes) :
    ∃ c', trRun ops = .ok c' ∧
      Glb.Tr.Filter.Contains c'.matchAll c'.mode c'.index c'.ipList c'.ipMaps ip
        = .ok (Glb.Filter.contains (modelRun ops) ip) := by
  obtain ⟨c', h1, hrel⟩ := run_sim ops
  exact ⟨c', h1, Contains_sim c' _ hrel ip⟩

open Glb.C11 (decode specMem specRun crun cstep containsAddr)

theorem modelRunFrom_decode (ops : List Op) (s : St) :
    modelRunFrom s ops = (ops.filterMap decode).foldl (cstep 256) s := by
  induction ops generalizing s with
  | nil => rfl
  | cons op ops ih =>
    rw [modelRunFrom, List.foldl_cons, ← modelRunFrom, ih, Glb.C11.step_decode, List.filterMap_cons]
    cases decode op <;> rfl

theorem modelRun_crun (ops : List Op) : modelRun ops = crun 256 (ops.filterMap decode) :=
  modelRunFrom_decode ops init

theorem decode_len_all (ops : List Op) : ∀ co ∈ ops.filterMap decode, co.len ≤ 32 := by
  intro co hco
  obtain ⟨op, _, hop⟩ := List.mem_filterMap.1 hco
  exact Glb.C11.decode_len op co hop

/-- **C11, end to end for the translated code.**  Run any sequence of byte-level `Add`/`Remove`
    calls through the translated methods from the initial state: no call panics, and afterwards the
    translated `Contains(ip)`, for every `ip` that `net.IP.To4` accepts (4-byte, or 16-byte
    IPv4-in-IPv6), answers `true` exactly when the address lies in one of the prefixes added and not
    since removed (`specRun` of the accepted operations, rejected ones being skipped by `decode`). -/
theorem C11_translated_spec (ops : List Op) (ip ip4 : Bytes) (h4 : Glb.Filter.to4 ip = some ip4) :
    ∃ c' r, trRun ops = .ok c' ∧
      Glb.Tr.Filter.Contains c'.matchAll c'.mode c'.index c'.ipList c'.ipMaps ip = .ok r ∧
      (r = true ↔ specMem (specRun (ops.filterMap decode)) (Glb.Filter.be32 ip4)) := by
  obtain ⟨c', h1, h2⟩ := C11_translated ops ip
  refine ⟨c', _, h1, h2, ?_⟩
  rw [← Glb.C11.filter_refines_prefix_set 256 _ (decode_len_all ops), ← modelRun_crun]
  simp only [Glb.Filter.contains, h4, containsAddr]
  cases (modelRun ops).matchAll <;> rfl

/-- an address that `To4` rejects is matched only by `0.0.0.0/0` (the `matchAll` flag) -/
theorem C11_translated_not4 (ops : List Op) (ip : Bytes) (h4 : Glb.Filter.to4 ip = none) :
    ∃ c' r, trRun ops = .ok c' ∧
      Glb.Tr.Filter.Contains c'.matchAll c'.mode c'.index c'.ipList c'.ipMaps ip = .ok r ∧
      (r = true ↔ ((0 : Addr), 0) ∈ specRun (ops.filterMap decode)) := by
  obtain ⟨c', h1, h2⟩ := C11_translated ops ip
  refine ⟨c', _, h1, h2, ?_⟩
  rw [← (Glb.C11.rel_run 256 (decode_len_all ops)).all, ← modelRun_crun]
  simp only [Glb.Filter.contains, h4]
  cases (modelRun ops).matchAll <;> rfl

end Glb.Tie.TrFilter
