/-
  Ties of TRANSLATED logger helpers that no listed property speaks about (supporting code; attached
  to a check as `support`): `appendIntWidth1..4`, `appendDateTime`, `ValidLevel`, `appendShortLevel`,
  `appendNanoSource` (Glb/Generated/TrLogger.lean, rewritten from /repo/logger/{buffer,level,nano_handler}.go
  on every run) = the hand models of Glb/Model/AuxLogger.lean / NanoHandler.lean.
-/
import Glb.Go.Lemmas
import Glb.Generated.TrLogger
import Glb.Tie.TrJson

namespace Glb.Tie.TrLogger
open Glb.Go Glb.Tie.TrJson Glb.Tie.TrLevel

/-- Go's truncating division: the model's `goDiv` is the translator's `idiv` (= `Int.tdiv`) -/
theorem goDiv_eq_idiv (a : Int) : Glb.Aux.DateTime.goDiv a 100 = idiv a 100 := by
  unfold Glb.Aux.DateTime.goDiv idiv
  split
  · rw [Int.tdiv_eq_ediv_of_nonneg ‹_›]
  · rw [← Int.tdiv_eq_ediv_of_nonneg (by omega), Int.neg_tdiv, Int.neg_neg]

/-- `Except.toOption` commutes with `>>=`: with it, translated code and model agree up to payloads
    as soon as their index reads and calls do -/
theorem toOption_bind {α β} (a : M α) (f : α → M β) :
    (a >>= f).toOption = a.toOption.bind fun x => (f x).toOption := by
  cases a <;> rfl

theorem appendIntWidth1_eq (buf : Bytes) (i : Int) :
    (Glb.Tr.Logger.appendIntWidth1 buf i).toOption
      = (Glb.Aux.DateTime.appendIntWidth1 buf i).toOption := by
  unfold Glb.Tr.Logger.appendIntWidth1 Glb.Aux.DateTime.appendIntWidth1
  simp only [idx_int, bind_assoc, pure_bind, toOption_bind, idxI_toOption]

theorem appendIntWidth1_exact (buf : Bytes) (i : Int) (h : 0 ≤ i) :
    Glb.Tr.Logger.appendIntWidth1 buf i = Glb.Aux.DateTime.appendIntWidth1 buf i := by
  unfold Glb.Tr.Logger.appendIntWidth1 Glb.Aux.DateTime.appendIntWidth1
  simp only [idx_int, bind_assoc, pure_bind]
  rw [idxI_exact _ _ (by omega)]

theorem appendIntWidth2_eq (buf : Bytes) (i : Int) :
    (Glb.Tr.Logger.appendIntWidth2 buf i).toOption
      = (Glb.Aux.DateTime.appendIntWidth2 buf i).toOption := by
  unfold Glb.Tr.Logger.appendIntWidth2 Glb.Aux.DateTime.appendIntWidth2
  simp only [bind_assoc, pure_bind, toOption_bind, slice_toOption]

theorem appendIntWidth2_exact (buf : Bytes) (i : Int) (h : 0 ≤ i) :
    Glb.Tr.Logger.appendIntWidth2 buf i = Glb.Aux.DateTime.appendIntWidth2 buf i := by
  unfold Glb.Tr.Logger.appendIntWidth2 Glb.Aux.DateTime.appendIntWidth2
  simp only [bind_assoc, pure_bind]
  rw [slice_exact _ _ _ (by omega) (by omega)]

theorem appendIntWidth3_eq (buf : Bytes) (i : Int) :
    (Glb.Tr.Logger.appendIntWidth3 buf i).toOption
      = (Glb.Aux.DateTime.appendIntWidth3 buf i).toOption := by
  unfold Glb.Tr.Logger.appendIntWidth3 Glb.Aux.DateTime.appendIntWidth3
  simp only [idx_int, bind_assoc, pure_bind, goDiv_eq_idiv, toOption_bind, idxI_toOption, slice_toOption]

private theorem idiv100_nonneg (i : Int) (h : 0 ≤ i) :
    0 ≤ idiv i 100 ∧ 0 ≤ i - idiv i 100 * 100 := by
  unfold idiv
  rw [Int.tdiv_eq_ediv_of_nonneg h]
  omega

theorem appendIntWidth3_exact (buf : Bytes) (i : Int) (h : 0 ≤ i) :
    Glb.Tr.Logger.appendIntWidth3 buf i = Glb.Aux.DateTime.appendIntWidth3 buf i := by
  obtain ⟨h1, h2⟩ := idiv100_nonneg i h
  unfold Glb.Tr.Logger.appendIntWidth3 Glb.Aux.DateTime.appendIntWidth3
  simp only [idx_int, bind_assoc, pure_bind, goDiv_eq_idiv]
  rw [idxI_exact _ _ (by omega), slice_exact _ _ _ (by omega) (by omega)]

theorem appendIntWidth4_eq (buf : Bytes) (i : Int) :
    (Glb.Tr.Logger.appendIntWidth4 buf i).toOption
      = (Glb.Aux.DateTime.appendIntWidth4 buf i).toOption := by
  unfold Glb.Tr.Logger.appendIntWidth4 Glb.Aux.DateTime.appendIntWidth4
  simp only [bind_assoc, pure_bind, goDiv_eq_idiv, toOption_bind, slice_toOption]

theorem appendIntWidth4_exact (buf : Bytes) (i : Int) (h : 0 ≤ i) :
    Glb.Tr.Logger.appendIntWidth4 buf i = Glb.Aux.DateTime.appendIntWidth4 buf i := by
  obtain ⟨h1, h2⟩ := idiv100_nonneg i h
  unfold Glb.Tr.Logger.appendIntWidth4 Glb.Aux.DateTime.appendIntWidth4
  simp only [bind_assoc, pure_bind, goDiv_eq_idiv]
  rw [slice_exact _ _ _ (by omega) (by omega), slice_exact _ _ _ (by omega) (by omega)]

theorem appendDateTime_eq (buf : Bytes) (y mo d h mi s : Int) :
    (Glb.Tr.Logger.appendDateTime buf y mo d h mi s).toOption
      = (Glb.Aux.DateTime.appendDateTime buf y mo d h mi s).toOption := by
  unfold Glb.Tr.Logger.appendDateTime Glb.Aux.DateTime.appendDateTime
  simp only [ToInt.toInt, id, toOption_bind, appendIntWidth4_eq, appendIntWidth2_eq]

theorem appendDateTime_exact (buf : Bytes) (y mo d h mi s : Int)
    (hy : 0 ≤ y) (hmo : 0 ≤ mo) (hd : 0 ≤ d) (hh : 0 ≤ h) (hmi : 0 ≤ mi) (hs : 0 ≤ s) :
    Glb.Tr.Logger.appendDateTime buf y mo d h mi s
      = Glb.Aux.DateTime.appendDateTime buf y mo d h mi s := by
  unfold Glb.Tr.Logger.appendDateTime Glb.Aux.DateTime.appendDateTime
  simp only [ToInt.toInt, id, appendIntWidth4_exact _ _ hy,
    appendIntWidth2_exact _ _ hmo, appendIntWidth2_exact _ _ hd, appendIntWidth2_exact _ _ hh,
    appendIntWidth2_exact _ _ hmi, appendIntWidth2_exact _ _ hs]

private theorem band3 (n : Nat) : band (n : Int) 3 = ((n % 4 : Nat) : Int) := by
  rw [← Nat.and_two_pow_sub_one_eq_mod n 2]; rfl

/-- the bit test `l&3 == 0 && l >= 0 && l <= 16` accepts exactly the five named levels -/
theorem ValidLevel_eq (l : Int) :
    Glb.Tr.Logger.ValidLevel l = .ok (decide (l = 0 ∨ l = 4 ∨ l = 8 ∨ l = 12 ∨ l = 16)) := by
  unfold Glb.Tr.Logger.ValidLevel
  simp only [pure, Except.pure]
  congr 1
  rw [Bool.eq_iff_iff]
  simp only [Bool.and_eq_true, beq_iff_eq, decide_eq_true_eq]
  by_cases h : 0 ≤ l
  · obtain ⟨n, rfl⟩ := Int.eq_ofNat_of_zero_le h
    rw [band3]
    omega
  · omega

theorem ValidLevel_consts (l : Int) :
    Glb.Tr.Logger.ValidLevel l = .ok (decide (l ∈ [Glb.Generated.levelDebug, Glb.Generated.levelInfo,
      Glb.Generated.levelWarn, Glb.Generated.levelError, Glb.Generated.levelFatal])) := by
  rw [ValidLevel_eq]
  simp [Glb.Generated.levelDebug, Glb.Generated.levelInfo, Glb.Generated.levelWarn,
    Glb.Generated.levelError, Glb.Generated.levelFatal]

private theorem int_beq (a b : Int) : (a == b) = decide (a = b) := by
  by_cases h : a = b <;> simp [h]

theorem ValidLevel_spec (l : Int) :
    Glb.Tr.Logger.ValidLevel l = .ok (Glb.Json.validLevel l) := by
  rw [ValidLevel_eq]
  simp [Glb.Json.validLevel, int_beq, Bool.or_assoc]

theorem appendShortLevel_exact (buf : Bytes) (l : Int) (h : 0 ≤ l) :
    Glb.Tr.Logger.appendShortLevel buf l false
      = Except.map (fun x => buf ++ x) (Glb.NanoHandler.shortLevel l) := by
  unfold Glb.Tr.Logger.appendShortLevel
  simp only [idx_int, Bool.false_eq_true, if_false, bind_pure_eq_map]
  simp [idxI, Glb.NanoHandler.shortLevel, h, Int.not_lt.mpr h]

theorem appendShortLevel_eq (buf : Bytes) (l : Int) :
    (Glb.Tr.Logger.appendShortLevel buf l false).toOption
      = (Except.map (fun x => buf ++ x) (Glb.NanoHandler.shortLevel l)).toOption := by
  by_cases h : 0 ≤ l
  · rw [appendShortLevel_exact buf l h]
  · -- a negative level panics on both sides
    simp [Glb.Tr.Logger.appendShortLevel, idxI, Glb.NanoHandler.shortLevel, h, Int.not_le.mp h,
      Except.map, Except.toOption, Functor.map]

/-- the short label `[D] [I] [W] [E] [F]` of a valid level -/
def shortName (l : Int) : Bytes :=
  [0x5B, (if l = 0 then 0x44 else if l = 4 then 0x49 else if l = 8 then 0x57
          else if l = 12 then 0x45 else 0x46), 0x5D]

theorem appendShortLevel_valid (buf : Bytes) (l : Int) (h : l = 0 ∨ l = 4 ∨ l = 8 ∨ l = 12 ∨ l = 16) :
    Glb.Tr.Logger.appendShortLevel buf l false = .ok (buf ++ shortName l) := by
  rw [appendShortLevel_exact buf l (by omega)]
  rcases h with h | h | h | h | h <;> subst h <;> rfl

theorem appendShortLevel_debug (buf : Bytes) :
    Glb.Tr.Logger.appendShortLevel buf Glb.Generated.levelDebug false = .ok (buf ++ [0x5B, 0x44, 0x5D]) :=
  appendShortLevel_valid buf 0 (by omega)
theorem appendShortLevel_info (buf : Bytes) :
    Glb.Tr.Logger.appendShortLevel buf Glb.Generated.levelInfo false = .ok (buf ++ [0x5B, 0x49, 0x5D]) :=
  appendShortLevel_valid buf 4 (by omega)
theorem appendShortLevel_warn (buf : Bytes) :
    Glb.Tr.Logger.appendShortLevel buf Glb.Generated.levelWarn false = .ok (buf ++ [0x5B, 0x57, 0x5D]) :=
  appendShortLevel_valid buf 8 (by omega)
theorem appendShortLevel_error (buf : Bytes) :
    Glb.Tr.Logger.appendShortLevel buf Glb.Generated.levelError false = .ok (buf ++ [0x5B, 0x45, 0x5D]) :=
  appendShortLevel_valid buf 12 (by omega)
theorem appendShortLevel_fatal (buf : Bytes) :
    Glb.Tr.Logger.appendShortLevel buf Glb.Generated.levelFatal false = .ok (buf ++ [0x5B, 0x46, 0x5D]) :=
  appendShortLevel_valid buf 16 (by omega)

/-- the file name cut down to its last two path components, `:`, the decimal line; no panic -/
theorem appendNanoSource_eq (buf file : Bytes) (line : Int) :
    Glb.Tr.Logger.appendNanoSource buf file line
      = .ok (buf ++ Glb.NanoHandler.appendNanoSource file (Lib.itoa line)) := by
  unfold Glb.Tr.Logger.appendNanoSource
  simp only [source_loop]
  simp only [bind, Except.bind, pure, Except.pure, sliceFrom_trim, Lib.appendInt10,
    Glb.NanoHandler.appendNanoSource, ToInt.toInt, id]
  simp

end Glb.Tie.TrLogger
