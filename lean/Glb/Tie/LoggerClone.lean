/-
  Regenerated tie for C03: what `tools/extract` read from the three `clone()` methods, from
  `WithAttrs` / `WithGroup` of the three handlers and from `Logger.With` / `Logger.WithGroup` in
  /repo satisfies the structural assumptions of `Glb/Model/DeriveSlices.lean`:

    * `clone()` is a single `return &T{…}` that copies every declared field verbatim except
      `preformatted`, which is `slices.Clip(h.preformatted)` (so the model's clip flag is `true`);
    * the deriving methods write memory only through the variable bound by `h2 := h.clone()`
      (assignment targets, `&` operands, `append` destinations), call nothing but read-only methods
      on the receiver, and return either the receiver or the clone;
    * `WithAttrs` with no attributes returns the receiver; `NanoHandler.WithGroup` returns the
      receiver and writes nothing;
    * `Logger.With` / `Logger.WithGroup` write nothing and return the receiver or a fresh `&Logger{…}`.

  Re-proved by `decide` on every run: dropping the Clip, assigning through `h`, appending to
  `h.preformatted`, mutating the `Logger` in place … break this file.
-/
import Glb.Generated.StatusLoggerClone
import Glb.Props.C03

namespace Glb.Tie.LoggerClone
open Glb.Generated.LoggerClone Glb.Derive

def cloneOK (f : CloneFact) : Bool :=
  f.singleReturn && f.clipped == ["preformatted"] && f.other.isEmpty &&
  f.structFields.all (fun x => f.verbatim.contains x || f.clipped.contains x)

/-- methods of the receiver that only read it -/
def readOnlyMethods : List String :=
  ["clone", "prefix", "freePrefix", "Enabled", "IsDebug", "IsColorful", "IsAddSource"]

def throughClone (f : WithFact) : Bool :=
  f.cloneVar != "" && f.cloneVar != f.recv &&
  f.writes.all (fun w => w.1 == f.cloneVar) &&
  f.recvCalls.all (fun m => readOnlyMethods.contains m) &&
  f.returns.all (fun r => r == f.recv || r == f.cloneVar)

def identityMethod (f : WithFact) : Bool :=
  f.writes.isEmpty && f.recvCalls.isEmpty && f.returns == [f.recv]

def freshWrapper (f : WithFact) : Bool :=
  f.writes.isEmpty && f.returns.all (fun r => r == f.recv || r == "&Logger{…}")

theorem json_clone_ok : cloneOK jsonClone = true := by decide
theorem text_clone_ok : cloneOK textClone = true := by decide
theorem nano_clone_ok : cloneOK nanoClone = true := by decide

theorem json_derives_through_clone :
    throughClone jsonWithAttrs = true ∧ jsonWithAttrs.emptyReturnsRecv = true ∧
    throughClone jsonWithGroup = true := by decide
theorem text_derives_through_clone :
    throughClone textWithAttrs = true ∧ textWithAttrs.emptyReturnsRecv = true ∧
    throughClone textWithGroup = true := by decide
theorem nano_derives_through_clone :
    throughClone nanoWithAttrs = true ∧ nanoWithAttrs.emptyReturnsRecv = true ∧
    identityMethod nanoWithGroup = true := by decide

theorem logger_with_wraps_fresh :
    freshWrapper loggerWith = true ∧ freshWrapper loggerWithGroup = true := by decide

/-- the clip flag the model is instantiated with is the one in the source -/
theorem code_clips : ∀ k : Kind, codeClips k = true := by
  intro k; cases k <;> rfl

/-- `C03.isolation` for the clip flags read from /repo -/
theorem isolation_of_code {α : Type} (R : Renderer α) (g : Policy) (k : Kind) (ops more : List (HOp α))
    (i : Nat) (h : Handler) (chain : List (DOp α))
    (hi : (run R (codeClips k) g k ops).forest[i]? = some (h, chain)) :
    (run R (codeClips k) g k (ops ++ more)).forest[i]? = some (h, chain) ∧
    h.view (run R (codeClips k) g k (ops ++ more)).heap = renderChain R k chain := by
  rw [code_clips k] at hi ⊢
  exact C03.isolation R g k ops more i h chain hi

/-- the extractor of this area recognised the source as it is on this run (a refusal removes `ok`) -/
theorem extractor_ok : Glb.Generated.StatusLoggerClone.ok = () := rfl

end Glb.Tie.LoggerClone
