/-
  Regenerated tie for C19: the statement lists the extractor reads from
  /repo/util/ioutil/progress.go *are* the lists `Progress.prodSteps` interprets.  Re-proved by
  `decide` on every run.  A blocking send in `sum` (`.sendSize` instead of `.trySendSize`), a
  missing final send or `close` in `Close`, `pw.size += n` after the send, a buffered status
  channel, a `sum` that is not called on the error path (an `if err == nil` → `.unknown`) … each
  changes a generated list and breaks one of these lemmas.
-/
import Glb.Generated.StatusIoutil
import Glb.Model.Progress

namespace Glb.Tie.Ioutil
open Glb.Progress

theorem sum_tie : Generated.pwSum = sumProg := by decide

theorem close_tie : Generated.pwClose = closeProg := by decide

theorem write_tie : Generated.pwWrite = writeProg := by decide

theorem writeString_tie : Generated.pwWriteString = writeStringProg := by decide

/-- `status: make(chan int)`: unbuffered, as the model's rendezvous semantics assumes -/
theorem status_unbuffered : Generated.pwStatusCap = some 0 := by decide

/- order facts the theorems rest on, stated as predicates over the generated lists (they follow
   from the equalities above; kept separately so that the evidence names them) -/
theorem sum_adds_before_offering :
    Generated.pwSum.idxOf .addSize < Generated.pwSum.idxOf .trySendSize ∧
    ¬ Generated.IoAct.sendSize ∈ Generated.pwSum := by decide

theorem close_sends_then_closes :
    Generated.pwClose.idxOf .sendSize < Generated.pwClose.idxOf .closeStatus ∧
    Generated.pwClose.idxOf .closeStatus < Generated.pwClose.length := by decide

theorem write_always_sums :
    Generated.pwWrite.idxOf .callSum = 1 ∧ Generated.pwWriteString.idxOf .callSum = 1 := by decide

/-- the extractor of this area recognised the source as it is on this run (a refusal removes `ok`) -/
theorem extractor_ok : Glb.Generated.StatusIoutil.ok = () := rfl

end Glb.Tie.Ioutil
