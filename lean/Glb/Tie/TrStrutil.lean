/-
  Tie of the TRANSLATED `/repo/util/strutil/strutil.go` (Glb/Generated/TrStrutil.lean, rewritten from
  the Go source on every run by tools/extract/golean.go) to the hand-written models the property
  theorems are about.  Every theorem here is `translated function = model`, for every input, so the
  theorems of Props/AuxFns and Props/C09 (Underscore) hold of the Go source as it stands; a change of the Go
  source changes the generated definitions and these proofs stop checking.
-/
import Glb.Go.Lemmas
import Glb.Generated.TrStrutil
import Glb.Model.AuxStrutil
import Glb.Model.Strutil

namespace Glb.Tie.TrStrutil
open Glb.Go Glb.Tr.Strutil
open Glb.Config (isLower isUpper isDigit)
open Glb.Aux.Str

theorem IsDigitString_eq (s : Bytes) :
    IsDigitString s = .ok (Glb.Aux.Str.isDigitString s) := by
  unfold IsDigitString
  dsimp only
  rw [loop_range s (fun i => i) (n := 0)
    (fun l _ => .ok (if allDigitsGo l then .inl (s.length : Int) else .inr false))]
  · simp only [List.drop_zero, isDigitString]
    cases allDigitsGo s
    · rfl
    · cases s <;> rfl
  · intro _; rfl
  · intro i hi
    rw [hi]; rfl
  · intro i n c rest hi _ hc
    subst hi
    simp only [RangeStep, hc, bind, Except.bind, pure, Except.pure, allDigitsGo]
    by_cases h1 : c < 48 <;> by_cases h2 : c > 57 <;> simp [h1, h2]
  · rfl
  · omega
  · simp only [len_eq]; omega

theorem SliceContain_eq (slice : List Bytes) (value : Bytes) :
    SliceContain slice value = .ok (Glb.Aux.Str.sliceContain slice value) := by
  unfold SliceContain
  dsimp only
  rw [loop_range slice (fun i => i) (n := 0)
    (fun l _ => .ok (if sliceContain l value then .inr true else .inl (slice.length : Int)))]
  · simp only [List.drop_zero]
    cases sliceContain slice value <;> rfl
  · intro _; rfl
  · intro i hi
    rw [hi]; rfl
  · intro i n c rest hi _ hc
    subst hi
    simp only [RangeStep, hc, bind, Except.bind, pure, Except.pure, sliceContain, beq_iff_eq]
    by_cases h1 : value = c <;> simp [h1]
  · rfl
  · omega
  · simp only [len_eq]; omega

/-- the value of Camelize's `upper` variable when its loop ends (not used by the code after the
    loop, needed only to name the loop's final state) -/
def camUpperGo : Bool → Bool → Bytes → Bool
  | u, _, [] => u
  | upper, ne, c :: rest =>
    if isLower c then camUpperGo false true rest
    else if isUpper c then camUpperGo false true rest
    else if isDigit c then camUpperGo upper true rest
    else camUpperGo (ne || upper) ne rest

theorem Camelize_eq (s : Bytes) (upper : Bool) :
    Camelize s upper = .ok (Glb.Aux.Str.camelize s upper) := by
  unfold Camelize
  dsimp only
  rw [loop_range s (fun st => st.2.2) (n := 0)
    (fun l st => .ok (.inl
      (camUpperGo st.1 (decide ((st.2.1.length : Int) > 0)) l,
       st.2.1 ++ camelizeGo st.1 (decide ((st.2.1.length : Int) > 0)) l,
       (s.length : Int))))]
  · rfl
  · intro _; rfl
  · intro ⟨u, buf, i⟩ hi
    dsimp only at hi
    simp [camelizeGo, camUpperGo, hi]
  · intro ⟨u, buf, i⟩ n c rest hi _ hc
    dsimp only at hi
    subst hi
    simp only [RangeStep, hc, bind, Except.bind, pure, Except.pure, camelizeGo, camUpperGo,
      isLower, isUpper, isDigit, len_eq]
    by_cases h1 : (decide (97 ≤ c) && decide (c ≤ 122)) = true
    · cases u <;> simp [h1]
    · by_cases h2 : (decide (65 ≤ c) && decide (c ≤ 90)) = true
      · cases u <;> simp [h1, h2]
      · by_cases h3 : (decide (48 ≤ c) && decide (c ≤ 57)) = true
        · simp [h1, h2, h3]
        · simp [h1, h2, h3]
  · rfl
  · omega
  · simp only [len_eq]; omega

end Glb.Tie.TrStrutil
