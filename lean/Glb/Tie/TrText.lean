/-
  Tie of the TRANSLATED `appendTextString` (/repo/logger/text_handler.go:247, regenerated into
  Glb/Generated/TrText.lean on every run) to the hand model `Glb.TextHandler.appendTextString`
  (Glb/Model/TextHandler.lean) the C13 property theorems are about.

      appendTextString_eq : Tr.Logger.appendTextString P buf str = .ok (TextHandler.appendTextString P buf str)

  for every record `P` of library functions, every `buf`, `str` (full strength: the translated code
  never panics and never runs out of fuel).

  The buffer is not changed inside the loop, so `loop_eq` applies with state `(buf, i)` and the model
  "`needsQuoteLoop P 0 str[i:]` ? return buf ++ quote str : leave in state (buf, len str)".  The
  model's skip counter (`needsQuoteLoop P k`, `k` bytes still to step over) is related to Go's
  `i += size` by `nql_drop`; a rune never extends past the end of the string (`decodeRune_size_le`).
-/
import Glb.Go.Lemmas
import Glb.Go.LemmasJsonString
import Glb.Generated.TrText
import Glb.Model.TextHandler
import Glb.Tie.Logger
import Glb.Go.LemmasTables
import Glb.Proofs.TextHandler

namespace Glb.Tie.TrText
open Glb.Go Glb.TextHandler

theorem idx_safeSet (c : UInt8) (hc : c < 128) : idx Generated.safeSet c = .ok (safe c) := by
  rw [Glb.Go.Tables.idx_safeSet c hc]
  simp [safe, Glb.JsonHandler.safe]

theorem nql_drop (P : Std) : ∀ (k : Nat) (rest : Bytes),
    needsQuoteLoop P k rest = needsQuoteLoop P 0 (rest.drop k)
  | 0, _ => rfl
  | _ + 1, [] => rfl
  | k + 1, _ :: rest => nql_drop P k rest

/-- Go's `b != '\\' && (b == ' ' || b == '=' || !safeSet[b])` evaluates its operands from left to right -/
theorem ok_and_or (p q s : Bool) :
    (if p = true then (if q = true then (Except.ok true : M Bool) else Except.ok (!s)) else Except.ok false)
      = Except.ok (p && (q || !s)) := by
  cases p <;> cases q <;> rfl

theorem appendTextString_eq (P : Std) (buf str : Bytes) :
    Glb.Tr.Logger.appendTextString P buf str = .ok (Glb.TextHandler.appendTextString P buf str) := by
  unfold Glb.Tr.Logger.appendTextString
  dsimp only
  by_cases h0 : str.length = 0
  · simp [Glb.TextHandler.appendTextString, h0, pure, Except.pure]
  have h0' : ¬ ((str.length : Int) == 0) = true := by simpa using h0
  rw [len_eq, if_neg h0']
  rw [loop_eq (σ := Bytes × Int) (ρ := Bytes)
    (Inv := fun st => ∃ n : Nat, st.2 = n ∧ n ≤ str.length)
    (measure := fun st => str.length - st.2.toNat)
    (model := fun st => .ok (if needsQuoteLoop P 0 (str.drop st.2.toNat)
        then .inr (st.1 ++ P.quote str) else .inl (st.1, (str.length : Int))))]
  · -- after the loop
    simp only [bind, Except.bind, pure, Except.pure, Glb.TextHandler.appendTextString,
      Int.toNat_zero, List.drop_zero]
    cases h : needsQuoteLoop P 0 str <;> simp [h0]
  · -- one evaluation
    rintro ⟨b, _⟩ ⟨n, rfl, hil⟩
    simp only [StepOK, pure, Except.pure, Int.toNat_natCast]
    cases hd : str.drop n with
    | nil =>
      obtain rfl : n = str.length := Nat.le_antisymm hil (length_of_drop_nil str n hd)
      simp [needsQuoteLoop]
    | cons c rest =>
      have hl := lt_length_of_drop_cons str n c rest hd
      have hdk : ∀ k, str.drop (n + (k + 1)) = rest.drop k := fun k => by
        rw [← List.drop_drop, hd, List.drop_succ_cons]
      simp only [Int.ofNat_lt, hl, decide_true, idx_drop str n c rest hd, bind, Except.bind, needsQuoteLoop]
      by_cases hb : c < 128
      · simp only [hb, decide_true, if_true, idx_safeSet c hb, ok_and_or, ← asciiNeedsQuote.eq_1]
        cases ha : asciiNeedsQuote c
        · simp only [Bool.false_eq_true, if_false, Int.toNat_natCast_add_one, hdk 0, List.drop_zero]
          exact ⟨⟨n + 1, rfl, hl⟩, by omega, trivial⟩
        · simp [LibText.appendQuote]
      · simp only [hb, decide_false, Bool.false_eq_true, if_false, sliceFrom_ok str n (Nat.le_of_lt hl), hd,
          LibUtf8.decodeRuneInString, LibText.isSpace, LibText.isPrint, LibText.appendQuote,
          Int.toNat_natCast]
        have hpos := Glb.Utf8.decodeRune_size_pos c rest
        have hle := Glb.Utf8.decodeRune_size_le (c :: rest)
        have hlen : (c :: rest).length = str.length - n := by rw [← hd, List.length_drop]
        generalize Glb.Utf8.decodeRune (c :: rest) = cs at hpos hle ⊢
        have hr : ((cs.1 : Int) == 65533) = (cs.1 == Utf8.runeError) := by
          rw [Bool.eq_iff_iff]; simp [Utf8.runeError]; omega
        simp only [hr, ← runeNeedsQuote.eq_1]
        cases hq : runeNeedsQuote P cs.1
        · obtain ⟨k, hk⟩ : ∃ k, cs.2 = k + 1 := ⟨cs.2 - 1, by omega⟩
          simp only [Bool.false_eq_true, if_false, hk, ← Int.natCast_add, Int.toNat_natCast, hdk, Nat.add_sub_cancel]
          exact ⟨⟨n + (k + 1), rfl, by omega⟩, by omega, by rw [nql_drop]⟩
        · simp
  · exact ⟨0, rfl, Nat.zero_le _⟩
  · simp

/-- The decision the translated code takes (used by property C13, cf. `appendTextString_cases` of
    Props/C13.lean): the string as it stands when `quotes P str = false`, `""` for the empty string,
    `strconv.Quote` otherwise. -/
theorem appendTextString_decision (P : Std) (buf str : Bytes) :
    Glb.Tr.Logger.appendTextString P buf str =
      .ok (if Glb.TextHandler.quotes P str then
             (if str = [] then buf ++ [0x22, 0x22] else buf ++ P.quote str)
           else buf ++ str) := by
  rw [appendTextString_eq, TextProofs.appendTextString_eq]

theorem appendTextString_bare (P : Std) (buf str : Bytes)
    (h : Glb.TextHandler.quotes P str = false) :
    Glb.Tr.Logger.appendTextString P buf str = .ok (buf ++ str) := by
  rw [appendTextString_decision, h]; simp

theorem appendTextString_empty (P : Std) (buf : Bytes) :
    Glb.Tr.Logger.appendTextString P buf [] = .ok (buf ++ [0x22, 0x22]) := by
  rw [appendTextString_decision]; simp [Glb.TextHandler.quotes]

theorem appendTextString_quoted (P : Std) (buf str : Bytes)
    (h : Glb.TextHandler.quotes P str = true) (hne : str ≠ []) :
    Glb.Tr.Logger.appendTextString P buf str = .ok (buf ++ P.quote str) := by
  rw [appendTextString_decision, h]; simp [hne]

end Glb.Tie.TrText
