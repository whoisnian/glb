/-
  Tie of the three TRANSLATED `JsonHandler` methods (/repo/logger/json_handler.go: `WithGroup` :72,
  `WithAttrs` :56, `Handle` :92; regenerated into Glb/Generated/TrJsonHandler.lean on every run, at the
  level of values: the handler state is the triple `(pre, nOpen, addSep)`, `buf` starts as a parameter,
  clone / pool / lock / Write are left out) to the hand model of Glb/Model/JsonHandler.lean (`H`,
  `withGroup`, `withAttrs`, `handle`, `attrLoop`, `Rec`) that the C01 main theorem `C01.C01_line` is about.

  Fuel convention: `Json_WithAttrs fuel` / `Json_Handle fuel` pass `fuel` itself to the recursive
  `appendJsonAttr`, so the hypothesis is `depthList attrs ≤ fuel` (Tie/TrJsonAttr: `depth a ≤ fuel`).

  Panics: the only possible one is the level-label index of `appendFullLevel` (`labelList[level+2]`).
  Translated code and model panic on exactly the same levels (`level < -2 ∨ 17 < level`), but for
  `level + 2 < 0` the PAYLOAD differs (`.other "index<0"` of `Glb.Go.idxI` vs the model's
  `.other "index out of range (negative)"`), so `Json_Handle_exact` is exact equality (ok-results and
  out-of-range panics with payload) under `-2 ≤ r.level`, and `Json_Handle_eq` is equality after
  `Except.toOption` for every level (ok-results agree, one side errs iff the other errs).

  Proof: the range loop over the attributes (the same loop in `WithAttrs` and `Handle`) is the model's
  `attrLoop` by `TrJsonAttr.attrs_loop`, the closing-braces loop `for i := 0; i < h.nOpenGroups; i++`
  appends `replicate nOpen '}'` (`loop_push`); both are rewritten inside the translated function, and
  what is left is straight-line code.  The guards `len(h.preformatted) > 0` / `r.NumAttrs() > 0` /
  `len(attrs) == 0` only skip work that changes nothing (`buf ++ [] = buf`, `attrLoop buf [] … = buf`).
-/
import Glb.Go.Lemmas
import Glb.Go.LibJson
import Glb.Generated.TrJsonHandler
import Glb.Model.JsonHandler
import Glb.Tie.TrJson
import Glb.Tie.TrJsonString
import Glb.Tie.TrJsonAttr
import Glb.Props.C01

namespace Glb.Tie.TrJsonHandler
open Glb.Go Glb.JsonHandler Glb.Go.LibJson Glb.Tie.TrJsonAttr Glb.Tie.TrLevel

/-- **the translated `WithGroup` is the model's `withGroup`** on the state triple, for every handler
    state and group name (no panic) -/
theorem Json_WithGroup_eq (h : H) (name : Bytes) :
    Glb.Tr.Logger.Json_WithGroup h.pre (h.nOpenGroups : Int) h.addSep name
      = .ok ((withGroup h name).pre, ((withGroup h name).nOpenGroups : Int),
             (withGroup h name).addSep, ()) := by
  unfold Glb.Tr.Logger.Json_WithGroup
  simp only [Glb.Tie.TrJsonString.appendJsonString_eq, withGroup, bind, Except.bind, pure,
    Except.pure]
  cases h.addSep <;> simp

theorem calls_eq (fuel : Nat) (as : List Attr) (hf : depthList as ≤ fuel) (colorful : Bool) :
    ∀ c ∈ as, ∀ b s, Glb.Tr.Logger.appendJsonAttr fuel b c s colorful
      = .ok (Glb.JsonHandler.appendJsonAttr b c s) :=
  fun c hc b s => appendJsonAttr_eq fuel b c s colorful (Nat.le_trans (depth_mem as c hc) hf)

/-- **the translated `WithAttrs` is the model's `withAttrs`** on the state triple (no panic, the fuel
    does not run out) -/
theorem Json_WithAttrs_eq(fuel : Nat) (h : H) (as : List Attr) (hf : depthList as ≤ fuel) :
    Glb.Tr.Logger.Json_WithAttrs fuel h.pre (h.nOpenGroups : Int) h.addSep as
      = .ok ((withAttrs h as).pre, ((withAttrs h as).nOpenGroups : Int),
             (withAttrs h as).addSep, ()) := by
  unfold Glb.Tr.Logger.Json_WithAttrs
  simp only [attrs_loop fuel false as (calls_eq fuel as hf false)]
  cases as with
  | nil => rfl
  | cons a as =>
    have : ¬ ((as.length : Int) + 1 = 0) := by omega
    simp [withAttrs, bind, Except.bind, pure, Except.pure, this]

/-- `for i := 0; i < n; i++ { buf = append(buf, c) }` -/
theorem loop_push {ρ} (n : Nat) (c : UInt8) (buf : Bytes) :
    loop (ρ := ρ) (buf, (0 : Int)) ((n : Int) - 0 + 2).toNat
      (fun st => pure (decide (st.2 < (n : Int))))
      (fun st => pure (Ctl.next (st.1 ++ [c], st.2)))
      (fun st => pure (st.1, st.2 + 1))
    = .ok (.inl (buf ++ List.replicate n c, (n : Int))) := by
  rw [loop_eq (σ := Bytes × Int) (Inv := fun st => 0 ≤ st.2 ∧ st.2 ≤ n) (measure := fun st => ((n : Int) - st.2).toNat)
    (model := fun st => .ok (.inl (st.1 ++ List.replicate ((n : Int) - st.2).toNat c, (n : Int))))]
  · simp
  · intro ⟨b, i⟩ ⟨h0, hl⟩
    dsimp only at h0 hl
    simp only [StepOK, pure, Except.pure]
    by_cases hn : i < n
    · have e1 : ((n : Int) - i).toNat = ((n : Int) - (i + 1)).toNat + 1 := by omega
      simp only [hn, decide_true]
      refine ⟨⟨by omega, by omega⟩, by omega, ?_⟩
      rw [e1, List.replicate_succ]
      simp
    · have e2 : i = n := by omega
      simp [e2]
  · simp
  · simp; omega

/-- **the translated `Handle` is the model's `handle`**, exact equality (bytes, and the out-of-range
    panic of the level label with its payload) for every handler state, record and `addSource`, under
    `-2 ≤ r.level` (below that both sides panic, with different payloads: see `Json_Handle_eq`);
    `r.line` is the decimal text of the translated code's line number -/
theorem Json_Handle_exact (fuel : Nat) (addSource : Bool) (h : H) (r : Rec) (lineNo : Int)
    (hline : r.line = Glb.Go.Lib.itoa lineNo) (hf : depthList r.attrs ≤ fuel)
    (hlevel : -2 ≤ r.level) :
    (Glb.Tr.Logger.Json_Handle fuel [] addSource h.pre (h.nOpenGroups : Int) h.addSep r.time
        r.level r.file lineNo r.msg r.attrs).map (·.1)
      = handle addSource h r := by
  unfold Glb.Tr.Logger.Json_Handle
  simp only [attrs_loop fuel false r.attrs (calls_eq fuel r.attrs hf false), loop_push,
    appendFullLevel_exact _ _ hlevel, Glb.Tie.TrJson.appendJsonSource_eq,
    Glb.Tie.TrJsonString.appendJsonString_eq, ← hline]
  rw [handle_eq]
  cases fullLevel r.level with
  | error e => rfl
  | ok lvl =>
    cases addSource <;>
    · simp only [Except.map, bind, Except.bind, pure, Except.pure, Bool.false_eq_true, if_false, if_true]
      simp only [len_pos]
      rw [Glb.TextProofs.ite_length_pos h.pre _ _ (fun e => by rw [e]; simp only [List.append_nil]),
        Glb.TextProofs.ite_length_pos r.attrs _ _ (fun e => by rw [e]; rfl)]
      -- what is left differs only in how the appends are bracketed
      simp [lineHead]

/-- **the translated `Handle` is the model's `handle`** for ALL inputs (every level), as equality after
    `Except.toOption`: ok-results agree, and one side panics iff the other does (payload erased) -/
theorem Json_Handle_eq (fuel : Nat) (addSource : Bool) (h : H) (r : Rec) (lineNo : Int)
    (hline : r.line = Glb.Go.Lib.itoa lineNo) (hf : depthList r.attrs ≤ fuel) :
    ((Glb.Tr.Logger.Json_Handle fuel [] addSource h.pre (h.nOpenGroups : Int) h.addSep r.time
        r.level r.file lineNo r.msg r.attrs).map (·.1)).toOption
      = (handle addSource h r).toOption := by
  by_cases hlevel : -2 ≤ r.level
  · rw [Json_Handle_exact fuel addSource h r lineNo hline hf hlevel]
  · -- both sides panic in their first statement, the level label
    have h2 : (handle addSource h r).toOption = none := by
      rw [handle, fullLevel, if_pos (by omega)]
      rfl
    rw [h2]
    apply toOption_map_none
    unfold Glb.Tr.Logger.Json_Handle
    refine toOption_bind_none _ ?_
    rw [appendFullLevel_eq, fullLevel, if_pos (by omega)]
    rfl

/-- deepest attribute tree of a derivation chain (the fuel the translated `WithAttrs` calls need) -/
def chainDepth : List Deriv → Nat
  | [] => 0
  | .attrs as :: ds => max (depthList as) (chainDepth ds)
  | .group _ :: ds => chainDepth ds

/-- one derivation step with the TRANSLATED methods, on the handler-state triple -/
def trDerive (fuel : Nat) (st : Bytes × Int × Bool) : Deriv → M (Bytes × Int × Bool)
  | .attrs as => (Glb.Tr.Logger.Json_WithAttrs fuel st.1 st.2.1 st.2.2 as).map
      (fun t => (t.1, t.2.1, t.2.2.1))
  | .group g => (Glb.Tr.Logger.Json_WithGroup st.1 st.2.1 st.2.2 g).map
      (fun t => (t.1, t.2.1, t.2.2.1))

def trDeriveAll (fuel : Nat) (st : Bytes × Int × Bool) : List Deriv → M (Bytes × Int × Bool)
  | [] => pure st
  | d :: ds => trDerive fuel st d >>= fun st' => trDeriveAll fuel st' ds

def triple (h : H) : Bytes × Int × Bool := (h.pre, (h.nOpenGroups : Int), h.addSep)

theorem trDeriveAll_eq (fuel : Nat) (h : H) (ds : List Deriv) (hf : chainDepth ds ≤ fuel) :
    trDeriveAll fuel (triple h) ds = .ok (triple (deriveAll h ds)) := by
  induction ds generalizing h with
  | nil => rfl
  | cons d ds ih =>
    -- one step with the translated method is the model's `derive`, and the fuel covers the rest
    have hd : trDerive fuel (triple h) d = .ok (triple (derive h d)) ∧ chainDepth ds ≤ fuel := by
      cases d with
      | attrs as =>
        simp only [chainDepth] at hf
        exact ⟨by simp only [trDerive, triple, Json_WithAttrs_eq fuel h as (by omega), Except.map, derive], by omega⟩
      | group g => exact ⟨by simp only [trDerive, triple, Json_WithGroup_eq h g, Except.map, derive], hf⟩
    simp only [trDeriveAll, hd.1, bind, Except.bind]
    exact ih (derive h d) hd.2

theorem ok_of_map_fst {α} {x : M (α × Unit)} {a : α} (h : x.map (·.1) = .ok a) : x = .ok (a, ()) := by
  cases x with
  | error e => cases h
  | ok v => cases h; rfl

open Glb.Json in
/-- **C01 for the translated methods.**  Derive a handler from `NewJsonHandler`'s state `("", 0, true)`
    through any chain with the translated `WithAttrs` / `WithGroup`, then call the translated `Handle`
    on any record with a valid level: nothing panics, the fuel (≥ the deepest attribute tree) does not
    run out, and the bytes produced are `body ++ "\n"` with `body` newline-free and a JSON text denoting
    `expected addSource chain r` (the statement of `C01.C01_line`, same contract hypotheses). -/
theorem C01_line_translated (fuel : Nat) (addSource : Bool) (chain : List Deriv) (r : Rec)
    (lineNo : Int) (hline : r.line = Glb.Go.Lib.itoa lineNo)
    (hfc : chainDepth chain ≤ fuel) (hf : depthList r.attrs ≤ fuel)
    (hchain : ChainOk chain) (hrec : RecOk r) (hlevel : validLevel r.level = true) :
    ∃ body,
      (trDeriveAll fuel ([], 0, true) chain >>= fun st =>
        Glb.Tr.Logger.Json_Handle fuel [] addSource st.1 st.2.1 st.2.2 r.time r.level r.file lineNo
          r.msg r.attrs) = .ok (body ++ [0x0A], ()) ∧
      0x0A ∉ body ∧ IsJson body (expected addSource chain r) := by
  obtain ⟨body, hb, hnl, hj⟩ := Glb.C01.C01_line addSource chain r hchain hrec hlevel
  refine ⟨body, ?_, hnl, hj⟩
  have hl2 : -2 ≤ r.level := by
    simp only [validLevel, Bool.or_eq_true, beq_iff_eq] at hlevel
    omega
  rw [show (([], 0, true) : Bytes × Int × Bool) = triple H.init from rfl,
    trDeriveAll_eq fuel H.init chain hfc]
  exact ok_of_map_fst
    ((Json_Handle_exact fuel addSource (deriveAll H.init chain) r lineNo hline hf hl2).trans hb)

end Glb.Tie.TrJsonHandler
