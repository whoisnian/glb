/-
  Tie of the TRANSLATED `ShellEscape` / `ShellEscapeExceptTilde` (Glb/Generated/TrShell.lean, rewritten from
  /repo/util/strutil/strutil.go on every run by tools/extract/golean.go) to the hand model the C16
  theorems (`escape_one_word`, `tilde_variant`, …) are about: translated function = model, for every
  byte string.  A change of the Go source changes the generated definitions and these proofs stop
  checking, so the theorems of Props/C16 hold of the Go source as it stands.
-/
import Glb.Go.Lemmas
import Glb.Generated.TrShell
import Glb.Model.Strutil

namespace Glb.Tie.TrShell
open Glb.Go Glb.Tr.Strutil

/-- the translator's `strings.Replace(s, old, new, -1)` is the model's `replaceGo … (-1)` when `old`
    is a single byte (enough fuel: more than `len s`) -/
private theorem replaceAllAux_single (q : UInt8) (new : Bytes) :
    ∀ (f : Nat) (s : Bytes), s.length < f →
      Lib.replaceAllAux [q] new f s = Glb.Strutil.replaceGo [q] new (-1) 0 s
  | 0, _, hf => nomatch hf
  | f + 1, [], _ => by simp [Lib.replaceAllAux, Glb.Strutil.replaceGo]
  | f + 1, c :: rest, hf => by
    simp [Lib.replaceAllAux, Glb.Strutil.replaceGo,
      replaceAllAux_single q new f rest (Nat.lt_of_succ_lt_succ hf)]

theorem replaceAll_single (q : UInt8) (new s : Bytes) :
    Lib.replaceAll s [q] new = Glb.Strutil.replaceGo [q] new (-1) 0 s := by
  unfold Lib.replaceAll
  exact replaceAllAux_single q new _ s (Nat.lt_succ_self _)

theorem ShellEscape_eq (s : Bytes) : ShellEscape s = .ok (Glb.Strutil.shellEscape s) := by
  unfold ShellEscape
  simp [pure, Except.pure, replaceAll_single, Glb.Strutil.shellEscape, Glb.Strutil.shellEscapeWith,
    Glb.Strutil.shellEscapeGen, Glb.Generated.shellEscapePrefix, Glb.Generated.shellEscapeOld,
    Glb.Generated.shellEscapeNew, Glb.Generated.shellEscapeSuffix, Glb.Generated.shellEscapeCount]

/-- plain equality, panics included: both sides take `s[2:]` with the same bounds check and the same
    payload (no panic is reachable anyway: the prefix test gives `len s ≥ 2`) -/
theorem ShellEscapeExceptTilde_eq (s : Bytes) :
    ShellEscapeExceptTilde s = Glb.Strutil.shellEscapeExceptTilde s := by
  unfold ShellEscapeExceptTilde
  have h2 : (2 : Int) = ((2 : Nat) : Int) := rfl
  simp only [ShellEscape_eq, h2, sliceFrom_nat, Glb.Strutil.shellEscapeExceptTilde,
    Glb.Strutil.shellEscapeExceptTildeGen, Glb.Strutil.hasPrefix, Lib.hasPrefix,
    Glb.Generated.tildePrefix, Glb.Generated.tildeKeep, Glb.Generated.tildeSliceLow]
  by_cases h : ([126, 47] : Bytes).isPrefixOf s = true
  · simp only [h, if_true, bind, Except.bind, pure, Except.pure]
    cases slice? s 2 s.length <;> simp
  · simp [h, pure, Except.pure]


end Glb.Tie.TrShell
