/-
  Tie of the TRANSLATED, RECURSIVE `appendJsonAttr` (/repo/logger/json_handler.go:149, regenerated into
  Glb/Generated/TrJsonAttr.lean on every run; fuel-indexed: fuel 0 is the error `.other "fuel"`, every
  self-call passes the remaining fuel) to the hand model `Glb.JsonHandler.appendJsonAttr` / `attrLoop`
  (mutual structural functions of Glb/Model/JsonHandler.lean) that the C01 theorems are about.

  The Go source ranges over a list of attributes in four places (inline group, keyed group, `WithAttrs`,
  `Handle`), each time calling `appendJsonAttr` on the element.  `attrs_loop` / `attrs_loop_wrote` say
  that such a loop is the model's `attrLoop` once every call is; they are stated about the loop as the
  translator prints it, so that they rewrite it inside the translated function before any case split.
  `appendJsonAttr_eq` is then an induction on the fuel (no structural induction on the nested inductive
  `Attr`) whose hypothesis supplies the calls on the children.
-/
import Glb.Go.Lemmas
import Glb.Go.LibJson
import Glb.Generated.TrJsonAttr
import Glb.Model.JsonHandler
import Glb.Tie.TrJsonString
import Glb.Props.C01
import Glb.Proofs.RendererInst

namespace Glb.Tie.TrJsonAttr
open Glb.Go Glb.JsonHandler Glb.Go.LibJson

mutual
/-- nesting depth of an attribute tree: a leaf is 1, a group is 1 + the deepest child -/
def depth : Attr → Nat
  | .leaf _ _ => 1
  | .group _ as => 1 + depthList as
def depthList : List Attr → Nat
  | [] => 0
  | a :: as => max (depth a) (depthList as)
end

theorem depth_pos (a : Attr) : 1 ≤ depth a := by
  cases a <;> simp [depth]

theorem depth_mem (as : List Attr) (a : Attr) (h : a ∈ as) : depth a ≤ depthList as := by
  induction as with
  | nil => cases h
  | cons b bs ih =>
    simp only [depthList]
    rcases List.mem_cons.1 h with h | h
    · subst h; omega
    · have := ih h; omega

theorem depth_child {a c : Attr} (h : c ∈ groupOf a) : depth c < depth a := by
  cases a with
  | leaf k v => cases h
  | group k as => have := depth_mem as c h; simp only [depth]; omega

/-- `for _, a := range as { if appendJsonAttr(buf, a, addSep, …) { addSep = true } }` (keyed group,
    `WithAttrs`, `Handle`) from `(buf, sep)`, given that the call on each element is the model's -/
theorem attrs_loop {ρ} (fuel : Nat) (colorful : Bool) (as : List Attr)
    (hcall : ∀ c ∈ as, ∀ b s,
      Glb.Tr.Logger.appendJsonAttr fuel b c s colorful = .ok (Glb.JsonHandler.appendJsonAttr b c s))
    (buf : Bytes) (sep : Bool) :
    loop (ρ := ρ) ((0 : Int), buf, sep) (len as - 0 + 2).toNat
      (fun st => pure (decide (st.1 < len as)))
      (fun st => do
        let a ← idx as st.1
        let t ← Glb.Tr.Logger.appendJsonAttr fuel st.2.1 a st.2.2 colorful
        if t.2 = true then pure (Ctl.next (st.1, t.1, true)) else pure (Ctl.next (st.1, t.1, st.2.2)))
      (fun st => pure (st.1 + 1, st.2.1, st.2.2))
    = .ok (.inl ((as.length : Int), (attrLoop buf as sep false).1, (attrLoop buf as sep false).2.1)) := by
  rw [loop_range as (fun st => st.1) (n := 0) (fun rest st => .ok (.inl ((as.length : Int),
    (attrLoop st.2.1 rest st.2.2 false).1, (attrLoop st.2.1 rest st.2.2 false).2.1)))]
  · rfl
  · intro _; rfl
  · intro ⟨i, b, s⟩ hi
    obtain rfl : i = as.length := hi
    rfl
  · intro ⟨i, b, s⟩ n c rest hi hd hc
    obtain rfl : i = n := hi
    have hm : c ∈ as := List.mem_of_mem_drop (hd ▸ List.mem_cons_self)
    simp only [RangeStep, hc, hcall c hm, bind, Except.bind, pure, Except.pure, attrLoop]
    cases (Glb.JsonHandler.appendJsonAttr b c s).2
    · exact ⟨rfl, rfl⟩
    · -- `wrote` does not influence the other two components
      exact ⟨rfl, by simp only [if_true, Glb.RendererInst.jLoop_eq]⟩
  · rfl
  · omega
  · simp only [len_eq]; omega


/-- the loop of the inline group, which also keeps `wrote`: the state is that of `attrLoop` -/
theorem attrs_loop_wrote {ρ} (fuel : Nat) (colorful : Bool) (as : List Attr)
    (hcall : ∀ c ∈ as, ∀ b s,
      Glb.Tr.Logger.appendJsonAttr fuel b c s colorful = .ok (Glb.JsonHandler.appendJsonAttr b c s))
    (buf : Bytes) (sep wrote : Bool) :
    loop (ρ := ρ) ((0 : Int), buf, sep, wrote) (len as - 0 + 2).toNat
      (fun st => pure (decide (st.1 < len as)))
      (fun st => do
        let a ← idx as st.1
        let t ← Glb.Tr.Logger.appendJsonAttr fuel st.2.1 a st.2.2.1 colorful
        if t.2 = true then pure (Ctl.next (st.1, t.1, true, true))
        else pure (Ctl.next (st.1, t.1, st.2.2.1, st.2.2.2)))
      (fun st => pure (st.1 + 1, st.2.1, st.2.2.1, st.2.2.2))
    = .ok (.inl ((as.length : Int), attrLoop buf as sep wrote)) := by
  rw [loop_range as (fun st => st.1) (n := 0)
    (fun rest st => .ok (.inl ((as.length : Int), attrLoop st.2.1 rest st.2.2.1 st.2.2.2)))]
  · rfl
  · intro _; rfl
  · intro ⟨i, b, s, w⟩ hi
    obtain rfl : i = as.length := hi
    rfl
  · intro ⟨i, b, s, w⟩ n c rest hi hd hc
    obtain rfl : i = n := hi
    have hm : c ∈ as := List.mem_of_mem_drop (hd ▸ List.mem_cons_self)
    simp only [RangeStep, hc, hcall c hm, bind, Except.bind, pure, Except.pure, attrLoop]
    cases (Glb.JsonHandler.appendJsonAttr b c s).2 <;> exact ⟨rfl, rfl⟩
  · rfl
  · omega
  · simp only [len_eq]; omega

/-- **the translated, recursive `appendJsonAttr` is the hand model**, for every attribute tree, buffer
    and flags, whenever the fuel is at least the nesting depth of the tree (so the fuel never runs
    out); the `colorful` flag does not influence the translated code (colour off in the model). -/
theorem appendJsonAttr_eq (fuel : Nat) (buf : Bytes) (a : Attr) (addSep colorful : Bool)
    (h : depth a ≤ fuel) :
    Glb.Tr.Logger.appendJsonAttr fuel buf a addSep colorful
      = .ok (Glb.JsonHandler.appendJsonAttr buf a addSep) := by
  induction fuel generalizing buf a addSep with
  | zero => have := depth_pos a; omega
  | succ fuel ih =>
    have hcall : ∀ c ∈ groupOf a, ∀ b s, Glb.Tr.Logger.appendJsonAttr fuel b c s colorful
        = .ok (Glb.JsonHandler.appendJsonAttr b c s) :=
      fun c hc b s => ih b c s (by have := depth_child hc; omega)
    rw [Glb.Tr.Logger.appendJsonAttr]
    simp only [attrs_loop fuel colorful (groupOf a) hcall, attrs_loop_wrote fuel colorful (groupOf a) hcall,
      Glb.Tie.TrJsonString.appendJsonString_eq]
    cases a with
    | leaf k v =>
      cases addSep <;>
        simp [isGroup, keyOf, valueBytes, Glb.JsonHandler.appendJsonAttr, bind, Except.bind, pure, Except.pure]
    | group k as =>
      cases k with
      | nil => simp [isGroup, keyOf, groupOf, Glb.JsonHandler.appendJsonAttr, bind, Except.bind, pure, Except.pure]
      | cons x k =>
        have hk : ¬ ((k.length : Int) + 1 = 0) := by omega
        cases addSep <;>
          simp [isGroup, keyOf, groupOf, Glb.JsonHandler.appendJsonAttr, bind, Except.bind, pure, Except.pure, hk]

theorem appendJsonAttr_eq_depth (buf : Bytes) (a : Attr) (addSep colorful : Bool) :
    Glb.Tr.Logger.appendJsonAttr (depth a) buf a addSep colorful
      = .ok (Glb.JsonHandler.appendJsonAttr buf a addSep) :=
  appendJsonAttr_eq (depth a) buf a addSep colorful (Nat.le_refl _)

/-- with fuel 0 the translated function reports `fuel` -/
theorem appendJsonAttr_fuel0 (buf : Bytes) (a : Attr) (addSep colorful : Bool) :
    Glb.Tr.Logger.appendJsonAttr 0 buf a addSep colorful = .error (.other "fuel") := by
  rw [Glb.Tr.Logger.appendJsonAttr]

open Glb.Json in
/-- **C01 `attr_render` for the translated code**: for an attribute tree satisfying the stdlib contract
    `AttrOk`, the translated `appendJsonAttr` appends exactly the canonical `,`-join of the flattened
    member list (`serSep`), for both values of `addSep`, and returns "wrote at least one member". -/
theorem appendJsonAttr_translated_render (fuel : Nat) (a : Attr) (ha : AttrOk a) (buf : Bytes)
    (addSep colorful : Bool) (h : depth a ≤ fuel) :
    Glb.Tr.Logger.appendJsonAttr fuel buf a addSep colorful =
      .ok (buf ++ serSep Glb.JsonHandler.appendJsonString addSep (membersSrc a),
           !(membersSrc a).isEmpty) := by
  rw [appendJsonAttr_eq fuel buf a addSep colorful h, Glb.C01.attr_render a ha buf addSep]

end Glb.Tie.TrJsonAttr
