/-
  Regenerated tie for C02: what `tools/extract` read from the three `Handle` methods, the
  constructors, `clone()`, `Logger.log/logf/logAttrs`, `Options.Enabled`, `freeBuffer`,
  `newBuffer` and `bufferPool.New` in /repo is the step sequence of `Glb/Model/LogSys.lean`:

    * per `Handle`: the buffer comes from `newBuffer()` with `defer freeBuffer(buf)`; there is
      exactly one `h.out.Write`, its argument is `*buf`, it comes lexically after the single
      `h.outMu.Lock()`; the unlock is deferred (or explicit after the write); lock and write are
      unconditional statements of the body; the writer is not used in any other way;
    * one mutex per root: the constructor allocates it, `clone()` copies the pointer and the writer;
    * `Logger.log/logf/logAttrs` test `Enabled` before anything else; `Enabled` is `l >= opts.level`;
    * `freeBuffer`: `cap(*buf) <= maxBufferSize` → reset to length 0, then `Put`; nothing else;
      fresh pool buffers have length 0.

  Re-proved by evaluation on every run: writing the line and the newline in two Writes, writing
  before the lock, allocating a new mutex in `clone()`, dropping the `[:0]` … break this file.
-/
import Glb.Generated.StatusLoggerHandle
import Glb.Generated.LoggerHandle
import Glb.Generated.LoggerClone

namespace Glb.Tie.LoggerHandle
open Glb.Generated.LoggerHandle Glb.Generated.LoggerClone

def allowedEvents : List String :=
  ["newBuffer", "deferFreeBuffer", "lock", "deferUnlock", "unlock", "write:*buf"]

def before (evs : List String) (a b : String) : Bool :=
  evs.contains a && evs.contains b && evs.idxOf a < evs.idxOf b

def handleOK (f : HandleFact) : Bool :=
  f.events.all (fun e => allowedEvents.contains e) &&
  f.events.count "write:*buf" == 1 && f.events.count "lock" == 1 &&
  f.events.count "newBuffer" == 1 && f.events.count "deferFreeBuffer" == 1 &&
  before f.events "newBuffer" "deferFreeBuffer" && before f.events "newBuffer" "write:*buf" &&
  before f.events "lock" "write:*buf" &&
  ((f.events.count "deferUnlock" == 1 && f.events.count "unlock" == 0 && before f.events "lock" "deferUnlock") ||
   (f.events.count "deferUnlock" == 0 && f.events.count "unlock" == 1 && before f.events "write:*buf" "unlock")) &&
  f.lockTopLevel && f.writeTopLevel

def sharedMutex (f : HandleFact) : Bool :=
  f.newAllocatesMutex && f.cloneCopiesOutMu && f.cloneCopiesOut

theorem json_handle_protocol : handleOK jsonHandle = true ∧ sharedMutex jsonHandle = true := by decide
theorem text_handle_protocol : handleOK textHandle = true ∧ sharedMutex textHandle = true := by decide
theorem nano_handle_protocol : handleOK nanoHandle = true ∧ sharedMutex nanoHandle = true := by decide

/-- the clone is a fresh struct whose other fields are copies (no second place a mutex could come from) -/
theorem clones_copy_fields :
    jsonClone.singleReturn = true ∧ jsonClone.other = [] ∧
    textClone.singleReturn = true ∧ textClone.other = [] ∧
    nanoClone.singleReturn = true ∧ nanoClone.other = [] := ⟨rfl, rfl, rfl, rfl, rfl, rfl⟩

theorem level_gate_first :
    logGateFirst = true ∧ logfGateFirst = true ∧ logAttrsGateFirst = true ∧
    optionsEnabledBody = "return l >= opts.level" := ⟨rfl, rfl, rfl, rfl⟩

theorem free_buffer_structure :
    freeBufferCond = "cap(*buf) <= maxBufferSize" ∧
    freeBufferThen = ["*buf = (*buf)[:0]", "bufferPool.Put(buf)"] ∧
    freeBufferHasElse = false ∧ freeBufferOther = [] := ⟨rfl, rfl, rfl, rfl⟩

theorem new_buffer_structure :
    newBufferBody = ["return bufferPool.Get().(*[]byte)"] ∧ freshBufferLenArg = "0" := ⟨rfl, rfl⟩

/-- the extractor of this area recognised the source as it is on this run (a refusal removes `ok`) -/
theorem extractor_ok : Glb.Generated.StatusLoggerHandle.ok = () := rfl

end Glb.Tie.LoggerHandle
