/-
  Tie of the TRANSLATED `(*FlagSet).argParse` of `/repo/config/config.go` (Glb/Generated/TrArgs.lean,
  rewritten from the Go source on every run by tools/extract/golean.go) to the hand-written model
  `Glb.ArgParse.argParse` (Glb/Model/ArgParse.lean) that the theorems of Props/C10 are about.
-/
import Glb.Go.Lemmas
import Glb.Generated.TrArgs
import Glb.Model.ArgParse
import Glb.Props.C10

namespace Glb.Tie.TrArgs
open Glb.Go
open Glb.ArgParse (ArgErr St Result Step body equals dash trueText stepSpec stepOf body_spec)
open Glb.ArgvGrammar (breakEq classify classifyBody Tok)

/-- the `errors.New` message of an error class (byte literals = the string constants of config.go,
    see `msgOf_badSyntax` … below) -/
def msgOf : ArgErr → Bytes
  | .badSyntax tok => ([99, 111, 110, 102, 105, 103, 58, 32, 98, 97, 100, 32, 102, 108, 97, 103, 32, 115, 121, 110, 116, 97, 120, 58, 32] : Bytes) ++ tok
  | .undefined n => ([99, 111, 110, 102, 105, 103, 58, 32, 102, 108, 97, 103, 32, 112, 114, 111, 118, 105, 100, 101, 100, 32, 98, 117, 116, 32, 110, 111, 116, 32, 100, 101, 102, 105, 110, 101, 100, 58, 32] : Bytes) ++ n
  | .needsArg n => ([99, 111, 110, 102, 105, 103, 58, 32, 102, 108, 97, 103, 32, 110, 101, 101, 100, 115, 32, 97, 110, 32, 97, 114, 103, 117, 109, 101, 110, 116, 58, 32] : Bytes) ++ n

theorem msgOf_badSyntax (tok : Bytes) :
    msgOf (.badSyntax tok) = Glb.strBytes "config: bad flag syntax: " ++ tok :=
  congrArg (· ++ tok) (by decide +kernel)

theorem msgOf_undefined (n : Bytes) :
    msgOf (.undefined n) = Glb.strBytes "config: flag provided but not defined: " ++ n :=
  congrArg (· ++ n) (by decide +kernel)

theorem msgOf_needsArg (n : Bytes) :
    msgOf (.needsArg n) = Glb.strBytes "config: flag needs an argument: " ++ n :=
  congrArg (· ++ n) (by decide +kernel)

/-- state of the translated outer loop: `(f.args, assigns)` -/
abbrev LoopSt := List Bytes × List (Bytes × Bytes)
/-- result of the translated function: `(f.args, assigns, err)` -/
abbrev Res := List Bytes × List (Bytes × Bytes) × Option Bytes

/-- a model result as the translated function returns it: final `f.args`, the recorded stores, the
    error (`none` = nil, `some msg` = `errors.New(msg)`) -/
def render : Result → Res
  | .ok s => (s.args, s.assigns, none)
  | .err e s => (s.args, s.assigns, some (msgOf e))

def ctlOf : Step → Ctl LoopSt Res
  | .ret r => .ret (render r)
  | .cont s => .next (s.args, s.assigns)

theorem stepSpec_cont_le {lookup : Bytes → Option Bool} {as : List (Bytes × Bytes)} {tok : Bytes}
    {rest : List Bytes} {s : St} (h : stepSpec lookup as tok rest = .cont s) :
    s.args.length ≤ rest.length := by
  have hs := Glb.ArgParse.stepSpec_parse lookup as tok rest
  rw [h] at hs
  exact hs.2.length_le

/-- How the translated loop is left from the model state `s`: `.inl (args, assigns)` when the
    condition `len(f.args) > 0` fails, `.inr r` for a `return` in the body. -/
def exitOf (lookup : Bytes → Option Bool) : St → Sum LoopSt Res
  | ⟨as, []⟩ => .inl ([], as)
  | ⟨as, tok :: rest⟩ =>
    match _h : stepSpec lookup as tok rest with
    | .ret r => .inr (render r)
    | .cont s' => exitOf lookup s'
termination_by s => s.args.length
decreasing_by exact Nat.lt_succ_of_le (stepSpec_cont_le _h)

theorem exitOf_cons (lookup : Bytes → Option Bool) (as : List (Bytes × Bytes))
    (tok : Bytes) (rest : List Bytes) :
    exitOf lookup ⟨as, tok :: rest⟩ =
      match stepSpec lookup as tok rest with
      | .ret r => .inr (render r)
      | .cont s' => exitOf lookup s' := by
  rw [exitOf]
  split <;> simp [*]

/-- what the code after the translated loop makes of the loop's outcome -/
def finish : Sum LoopSt Res → Res
  | .inl st => (st.1, st.2, none)
  | .inr v => v

theorem loop_exitOf (lookup : Bytes → Option Bool) : ∀ (fuel : Nat) (s : St), s.args.length < fuel →
    (Glb.ArgParse.loop lookup fuel s).map render = .ok (finish (exitOf lookup s)) := by
  intro fuel
  induction fuel with
  | zero => intros; omega
  | succ f ih =>
    intro ⟨as, args⟩ h
    cases args with
    | nil => rw [exitOf]; rfl
    | cons tok rest =>
      rw [exitOf_cons, Glb.ArgParse.loop]
      simp only [List.length_cons, Nat.zero_lt_succ, if_true, body_spec, bind, Except.bind, gt_iff_lt]
      cases hs : stepSpec lookup as tok rest with
      | ret r => rfl
      | cont s' => exact ih s' (Nat.lt_of_le_of_lt (stepSpec_cont_le hs) (Nat.lt_of_succ_lt_succ h))

/-- state of the translated inner loop: `(argValue, name, hasValue, i)` -/
abbrev ScanSt := Bytes × Bytes × Bool × Int

/-- the state in which the translated `for i := 1; i < len(name); i++` is left when it reaches
    position `i` of `nm` without having met a `=`: it stops at the first `=` from there on -/
def scanEnd (nm : Bytes) (i : Nat) : ScanSt :=
  ((breakEq (nm.drop i)).2.getD [], nm.take i ++ (breakEq (nm.drop i)).1,
    (breakEq (nm.drop i)).2.isSome, ((i + (breakEq (nm.drop i)).1.length : Nat) : Int))

theorem idx_zero {α} (s : List α) : Glb.Go.idx s (0 : Nat) = Glb.idx? s 0 := by
  simp [Glb.Go.idx, ToInt.toInt, idxI]

theorem argParse_exit (lookup : Bytes → Option Bool) (args : List Bytes) (assigns : List (Bytes × Bytes)) :
    Glb.Tr.Config.argParse lookup args assigns
      = .ok (finish (exitOf lookup ⟨assigns, args⟩)) := by
  unfold Glb.Tr.Config.argParse
  extract_lets +onlyGivenNames args' assigns'
  rw [loop_eq (σ := LoopSt) (ρ := Res)
    (Inv := fun _ => True)
    (measure := fun st => st.1.length)
    (model := fun st => .ok (exitOf lookup ⟨st.2, st.1⟩))]
  · -- the code after the loop
    dsimp only
    cases exitOf lookup ⟨assigns, args⟩ <;> rfl
  · intro ⟨args, as⟩ _
    cases args with
    | nil => exact StepOK.exit rfl (by rw [exitOf])
    | cons tok rest =>
      refine StepOK.of_body (ctlOf (stepSpec lookup as tok rest)) (by simp [pure, Except.pure])
        ?body ?model
      case model =>
        have hm := exitOf_cons lookup as tok rest
        cases hs : stepSpec lookup as tok rest with
        | ret r => rw [hs] at hm; exact StepOK.ret rfl rfl (congrArg Except.ok hm)
        | cont s' =>
          rw [hs] at hm
          exact StepOK.next rfl
            ⟨_, _, rfl, rfl, trivial, Nat.lt_succ_of_le (stepSpec_cont_le hs), congrArg Except.ok hm⟩
      case body =>
        dsimp -zeta only
        extract_lets targs tas
        rename_i K
        have hK name : K () (tok :: rest) name = .ok (ctlOf (stepOf lookup as tok rest (classifyBody name))) := by
          dsimp +zetaDelta only
          cases name with
          | nil => simp [idx_cons_zero, -idx_natlit, classifyBody, stepOf, ctlOf, render, msgOf, bind, Except.bind, pure, Except.pure]
          | cons b t =>
            have hl0 : (len (b :: t) == 0) = false := by
              simp only [len_eq, List.length_cons, beq_eq_false_iff_ne, ne_eq]; omega
            simp only [hl0, idx_cons_zero, sliceFrom_one, bind, Except.bind, pure, Except.pure,
              Bool.false_eq_true, if_false]
            by_cases hb : b = dash ∨ b = equals
            · rcases hb with rfl | rfl <;> simp [dash, equals, classifyBody, stepOf, ctlOf, render, msgOf]
            have h45 : (b == 45) = false := beq_eq_false_iff_ne.2 fun e => hb (.inl e)
            have h61 : (b == 61) = false := beq_eq_false_iff_ne.2 fun e => hb (.inr e)
            have hcb : classifyBody (b :: t) = .flag (b :: (breakEq t).1) (breakEq t).2 := if_neg hb
            simp only [h45, h61, hcb, Bool.false_eq_true, if_false]
            rw [loop_eq (σ := ScanSt) (ρ := Res)
              (Inv := fun st => ∃ k : Nat, st = ([], b :: t, false, (k : Int)) ∧ k ≤ (b :: t).length)
              (measure := fun st => (b :: t).length - st.2.2.2.toNat)
              (model := fun st => .ok (.inl (scanEnd (b :: t) st.2.2.2.toNat)))]
            · -- from the flag table on, with what the scan found
              dsimp only
              simp only [Int.toNat_one, scanEnd, List.take_succ_cons, List.take_zero, List.drop_succ_cons, List.drop_zero,
                List.cons_append, List.nil_append]
              cases hl : lookup (b :: (breakEq t).1) with
              | none => cases (breakEq t).2 <;> simp [stepOf, hl, ctlOf, render, msgOf]
              | some isBool =>
                cases (breakEq t).2 with
                | some v => simp [stepOf, hl, ctlOf]
                | none =>
                  cases isBool <;> cases rest <;>
                    simp [stepOf, hl, ctlOf, render, msgOf, trueText, idx_cons_zero, -idx_natlit, sliceFrom_one]
            · -- one evaluation of the `=` scan
              rintro _ ⟨k, rfl, hk'⟩
              by_cases hk : k < (b :: t).length
              · have hcond : (Except.ok (decide ((k : Int) < len (b :: t))) : M Bool) = .ok true :=
                  congrArg Except.ok (decide_eq_true (by simp only [len_eq]; omega))
                obtain ⟨c, r, hd⟩ : ∃ c r, (b :: t).drop k = c :: r := ⟨_, _, List.drop_eq_getElem_cons hk⟩
                have hc : idx (b :: t) (k : Int) = .ok c := idx_drop _ k c r hd
                by_cases he : c = equals
                · subst he
                  have h61 : (equals == 61) = true := by decide
                  have hn : slice (b :: t) 0 (k : Int) = .ok ((b :: t).take k) :=
                    slice_ok (b :: t) 0 k (Nat.zero_le k) hk'
                  refine StepOK.brk hcond (s := (r, (b :: t).take k, true, (k : Int))) ?_ ?_
                  · simp only [hc, h61, if_true, hn, ← Int.natCast_succ, sliceFrom_ok (b :: t) (k + 1) hk,
                      drop_succ_of_drop _ k _ r hd]
                  · simp [scanEnd, hd, breakEq]
                · have h61 : (c == 61) = false := beq_eq_false_iff_ne.2 he
                  refine StepOK.next hcond ⟨([], b :: t, false, (k : Int)), ([], b :: t, false, (k : Int) + 1),
                    ?_, rfl, ⟨k + 1, rfl, hk⟩, by dsimp only; omega, ?_⟩
                  · simp only [hc, h61, Bool.false_eq_true, if_false]
                  · have e : ((k : Int) + 1).toNat = k + 1 := by omega
                    have e' : k + ((breakEq r).1.length + 1) = k + 1 + (breakEq r).1.length := by omega
                    have ht : (b :: t).take (k + 1) = (b :: t).take k ++ [c] := by rw [List.take_add, hd]; rfl
                    simp [scanEnd, e, hd, drop_succ_of_drop _ k c r hd, breakEq, he, e', ht, -List.take_succ_cons]
              · have hcond : (Except.ok (decide ((k : Int) < len (b :: t))) : M Bool) = .ok false :=
                  congrArg Except.ok (decide_eq_false (by simp only [len_eq]; omega))
                have hk'' : k = (b :: t).length := by omega
                refine StepOK.exit hcond ?_
                simp [scanEnd, hk'', breakEq]
            · exact ⟨1, rfl, Nat.le_add_left 1 _⟩
            · simp only [len_eq, List.length_cons]; omega
        clear_value K
        unfold stepSpec
        have hlen (n : Nat) : ¬ (n : Int) + 1 ≤ 0 := by omega
        fun_cases classify tok
        all_goals simp +arith [hK, hlen, targs, tas, idx_cons_zero, -idx_natlit, sliceFrom_one, bind, Except.bind, pure,
          Except.pure, show (45 : UInt8) = dash from rfl, *]
        -- non-flag and terminator return before it: `ctlOf (stepOf …)` computes
        all_goals rfl
  · trivial
  · simp only [len_eq]; omega

/-- `(*FlagSet).argParse` of config/config.go, as translated, started with `f.args = args` and the
    stores `assigns` already recorded, is the model's loop from that state (with the fuel the model
    gives itself), rendered as `(f.args, stores, error)`.  Panics included: both sides perform the
    same index / slice expressions with the same helpers (and, by `never_panics`, none fails). -/
theorem argParse_loop_eq (lookup : Bytes → Option Bool) (args : List Bytes) (assigns : List (Bytes × Bytes)) :
    Glb.Tr.Config.argParse lookup args assigns
      = (Glb.ArgParse.loop lookup (args.length + 1) ⟨assigns, args⟩).map render := by
  rw [argParse_exit]
  exact (loop_exitOf lookup _ _ (Nat.lt_succ_self _)).symm

/-- The translated command-line scanner equals the hand model the C10 theorems are about, for every
    flag table and every argument vector (full equality in `Except GoPanic`, payloads included). -/
theorem argParse_eq (lookup : Bytes → Option Bool) (argv : List Bytes) :
    Glb.Tr.Config.argParse lookup argv [] = (Glb.ArgParse.argParse lookup argv).map render := by
  rw [argParse_loop_eq]
  rfl

/-! ### the C10 theorems, restated about the translated code -/

/-- no index or slice expression of the translated `argParse` panics, and its loops never run out
    of the fuel the translator gave them -/
theorem argParse_translated_never_panics (lookup : Bytes → Option Bool) (argv : List Bytes) :
    ∃ r, Glb.Tr.Config.argParse lookup argv [] = .ok r := by
  obtain ⟨r, h⟩ := Glb.C10.never_panics lookup argv
  exact ⟨render r, by rw [argParse_eq, h]; rfl⟩

/-- the `f.args` the translated code leaves behind (also after an error) is a suffix of argv -/
theorem argParse_translated_args_suffix (lookup : Bytes → Option Bool) (argv : List Bytes)
    (r : Res) (h : Glb.Tr.Config.argParse lookup argv [] = .ok r) : r.1 <:+ argv := by
  obtain ⟨m, hm⟩ := Glb.C10.never_panics lookup argv
  have hs := Glb.C10.args_is_suffix lookup argv m hm
  rw [argParse_eq, hm] at h
  cases h
  cases m <;> exact hs

/-- the translated code returns exactly what the documented grammar (`ArgvGrammar.parse`) says:
    `nil` with the same stores and remaining arguments, or the error message of the same class -/
theorem argParse_translated_refines_grammar (lookup : Bytes → Option Bool) (argv : List Bytes) :
    ∃ r : Res, Glb.Tr.Config.argParse lookup argv [] = .ok r ∧
      match Glb.ArgvGrammar.parse lookup argv with
      | .ok as rest => r = (rest, as, none)
      | .err e => r.2.2 = some (msgOf e) := by
  obtain ⟨m, hm, hspec⟩ := Glb.C10.argParse_refines_grammar lookup argv
  refine ⟨render m, by rw [argParse_eq, hm]; rfl, ?_⟩
  rw [← hspec]
  cases m <;> rfl

/-- the translated code returns `nil` exactly on the vectors the grammar accepts -/
theorem argParse_translated_success_exactly (lookup : Bytes → Option Bool) (argv : List Bytes)
    (as : List (Bytes × Bytes)) (rest : List Bytes) :
    Glb.Tr.Config.argParse lookup argv [] = .ok (rest, as, none) ↔
      ∃ pre tail, argv = pre ++ tail ∧ Glb.ArgvGrammar.WellFormed lookup pre as ∧
        Glb.ArgvGrammar.Ends tail rest := by
  rw [← Glb.C10.success_exactly, argParse_eq]
  obtain ⟨m, hm⟩ := Glb.C10.never_panics lookup argv
  rcases m with ⟨a, b⟩ | _ <;> simp [hm, Except.map, render, and_comm]

/-- the three messages are pairwise distinct and determine the offending token / name: byte 13 is
    `l` for "bad flag syntax", `p` for "provided" and `n` for "needs" -/
theorem msgOf_injective (e e' : ArgErr) (h : msgOf e = msgOf e') : e = e' := by
  have key : ∀ e, (msgOf e)[13]? = some (match e with
      | .badSyntax _ => (108 : UInt8) | .undefined _ => 112 | .needsArg _ => 110) := by
    intro e; cases e <;> rfl
  have h13 := congrArg (·[13]?) h
  simp only [key] at h13
  -- different classes: `h13` is false; the same class: cancel the common text
  cases e <;> cases e' <;> simp at h13 <;> exact congrArg _ (List.append_cancel_left h)

/-- the translated code fails with the message of class `e` exactly when, after a well-formed
    prefix, the next token is the violation `e` (C10 `errors_exactly`) -/
theorem argParse_translated_errors_exactly (lookup : Bytes → Option Bool) (argv : List Bytes) (e : ArgErr) :
    (∃ args as, Glb.Tr.Config.argParse lookup argv [] = .ok (args, as, some (msgOf e))) ↔
      ∃ pre as tok rest, argv = pre ++ tok :: rest ∧ Glb.ArgvGrammar.WellFormed lookup pre as ∧
        Glb.ArgvGrammar.Offends lookup tok rest e := by
  rw [← Glb.C10.errors_exactly, argParse_eq]
  obtain ⟨m, hm⟩ := Glb.C10.never_panics lookup argv
  have inj (a b : ArgErr) : msgOf a = msgOf b ↔ a = b := ⟨msgOf_injective a b, congrArg _⟩
  cases m <;> simp [hm, Except.map, render, inj]

end Glb.Tie.TrArgs
