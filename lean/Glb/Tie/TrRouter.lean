/-
  Tie of the TRANSLATED `/repo/httpd/tree.go` (Glb/Generated/TrRouter.lean, rewritten from the Go
  source on every run by tools/extract/golean.go) to the hand-written router model
  (Glb/Model/Router.lean) that the refinement theorems of Props/C04 are about.
-/
import Glb.Go.Lemmas
import Glb.Generated.TrRouter
import Glb.Proofs.RouterParse

namespace Glb.Tie.TrRouter
open Glb.Go
open Glb.Router (Node RouteId Params findLoop normPath notSlashAt)

theorem mapGet_eq_assocGet {α} (m : List (Bytes × α)) (k : Bytes) :
    Glb.Go.mapGet m k = Glb.Router.assocGet m k := by
  induction m with
  | nil => rfl
  | cons kv r ih =>
    obtain ⟨k', v⟩ := kv
    simp only [Glb.Go.mapGet, Glb.Router.assocGet, ih]

theorem mapGet_next (n : Node) (k : Bytes) :
    Glb.Go.mapGet n.next k = n.child k := by
  simp only [Glb.Router.Node.child, mapGet_eq_assocGet]

theorem mapGetD_tagOf (m : Bytes) :
    Glb.Go.mapGetD Glb.Generated.methodTagMap m = Glb.Router.tagOf m := by
  simp only [Glb.Go.mapGetD, Glb.Router.tagOf, Glb.Router.methodTag?, mapGet_eq_assocGet]

theorem methodNodeOrNil_eq (n : Node) (method : Bytes) :
    Glb.Tr.Router.methodNodeOrNil n method = .ok (Glb.Router.methodNodeOrNil n method) := by
  unfold Glb.Tr.Router.methodNodeOrNil Glb.Router.methodNodeOrNil
  simp only [mapGet_next, mapGetD_tagOf]
  cases h : n.child (Glb.Router.tagOf method) <;> simp [pure, Except.pure]

theorem notSlashAt_lt (p : Bytes) (r : Nat) (h : r < p.length) : notSlashAt p r = (p[r] != 47) := by
  simp [notSlashAt, h]

theorem notSlashAt_ge (p : Bytes) (r : Nat) (h : p.length ≤ r) : notSlashAt p r = false := by
  simp [notSlashAt, h]

/-- the guard `right < length && path[right] != '/'` of the translated loops -/
theorem guard_eq (path : Bytes) (r : Nat) :
    (if decide (r < path.length) = true then Except.bind (Glb.idx? path r) (fun t => .ok (t != 47))
      else .ok false : M Bool) = .ok (notSlashAt path r) := by
  by_cases h : r < path.length
  · rw [if_pos (decide_eq_true h), idx?_ok path r h, notSlashAt_lt path r h]; rfl
  · rw [if_neg (by simpa using h), notSlashAt_ge path r (by omega)]

/-- the tie for a path that already starts with `/` -/
private theorem findRoute_core (root : Node) (rest method : Bytes) (K V : List Bytes) :
    Glb.Tr.Router.findRoute root (47 :: rest) method K V
      = (Glb.Router.findRoute root (47 :: rest) method ⟨K, V⟩).map (fun r => (r.2.K, r.2.V, r.1)) := by
  unfold Glb.Router.findRoute
  dsimp only
  rw [show normPath (47 :: rest) = 47 :: rest from rfl]
  unfold Glb.Tr.Router.findRoute
  delta Glb.Go.len
  dsimp only
  have h0 : ((47 :: rest : Bytes) == []) = false := rfl
  have h1 : Glb.idx? (47 :: rest : Bytes) 0 = .ok 47 := rfl
  simp only [h0, Bool.false_eq_true, if_false, idx_natlit, idxI_nat, h1, bind, bind_ok, pure, Except.pure,
    bne_self_eq_false]
  clear h0 h1
  generalize (47 :: rest : Bytes) = q
  clear rest
  generalize hL : loop _ _ _ _ _ = L
  have hsim := loop_sim (σ := Node × List Bytes × Int × Int) (ρ := List Bytes × List Bytes × Option RouteId)
    (fun st => IdxInv q.length st.2.2.1 st.2.2.2) (fun st => idxMeasure q.length st.2.2.2)
    (fun st => viaNat q.length (fun f l r => findLoop q f l r st.1 st.2.1) st.2.2.1 st.2.2.2)
    (fun t a => match t.1 with
      | some n => ∃ l r : Int, a = .inl (n, t.2, l, r)
      | none => a = .inr (K, t.2, none))
    ?step _ _ hL (show IdxInv q.length 0 0 from ⟨Int.le_refl 0, Int.le_refl 0, by omega⟩)
    (by show q.length + 1 - 0 < _; omega)
  case step =>
    intro ⟨node, pV, l, r⟩ hinv
    obtain ⟨l, r, rfl, rfl⟩ := IdxInv.nat hinv
    clear hinv
    simp only [StepSim, idx_int, idxI_nat, mapGet_next, decide_int_le, decide_int_lt,
      decide_int_sub_lt_two, slice_succ, sliceFrom_succ, guard_eq, bind_ok]
    by_cases hle : r ≤ q.length
    · have next := fun n' V' l' => idx_next (fun f l r => findLoop q f l r n' V') l' hle
      simp only [viaNat_le _ _ hle, findLoop, decide_eq_true hle]
      cases hns : notSlashAt q r
      · simp only [Bool.false_eq_true, if_false]
        by_cases h2 : r - l < 2 ∧ r < q.length
        · simp only [h2, decide_true, Bool.and_self, and_self, if_true]
          exact next _ _ _
        · have h2' : (decide (r - l < 2) && decide (r < q.length)) = false := by simpa using h2
          simp only [h2, h2', Bool.false_eq_true, if_false, bind]
          cases hs : slice? q (l + 1) r with
          | error e => exact rfl
          | ok seg =>
            simp only [bind_ok]
            cases hc1 : node.child seg with
            | some res => exact next _ _ _
            | none =>
              dsimp only
              cases hc2 : node.child Generated.routeParam with
              | some res => exact next _ _ _
              | none =>
                dsimp only
                cases hc3 : node.child Generated.routeParamAny with
                | none => exact ⟨_, rfl, rfl⟩
                | some res =>
                  cases hrest : slice? q (l + 1) q.length with
                  | error e => exact rfl
                  | ok rest => exact ⟨_, rfl, _, _, rfl⟩
      · simp only [if_true]
        exact next _ _ _
    · simp only [viaNat_gt _ _ hle, findLoop, decide_eq_false hle]
      exact ⟨_, rfl, _, _, rfl⟩
  -- the code around the loop
  have hm := viaNat_le (fun f l r => findLoop q f l r root V) 0 (Nat.zero_le q.length)
  simp only [Int.natCast_zero, Nat.sub_zero] at hm
  dsimp only at hsim
  rw [hm] at hsim
  simp only [methodNodeOrNil_eq]
  generalize findLoop q (q.length + 1) 0 0 root V = fl at hsim ⊢
  have hbeq : ((q.length : Int) == 1) = decide (q.length = 1) := by
    by_cases h : q.length = 1
    · simp [h]
    · simp only [h, decide_false, beq_eq_false_iff_ne, ne_eq]; omega
  rw [hbeq]
  have hG : L.bind (β := List Bytes × List Bytes × Option RouteId) ?k
      = Except.map ?f (fl.bind (β := Option RouteId × Params) ?k') := ?general
  · by_cases hlen : q.length = 1
    · simp only [hlen, decide_true, if_true, bind_ok]
      cases Glb.Router.methodNodeOrNil root method with
      | some n => rfl
      | none => exact hG
    · simp only [hlen, decide_false, if_false, Bool.false_eq_true]
      exact hG
  case general =>
    cases fl with
    | error e => rw [show L = .error e from hsim]; rfl
    | ok res =>
      obtain ⟨on, V'⟩ := res
      obtain ⟨a, rfl, ha⟩ := hsim
      cases on with
      | none => rw [show a = _ from ha]; rfl
      | some n =>
        obtain ⟨l', r', rfl⟩ := ha
        simp only [bind_ok]
        cases Glb.Router.methodNodeOrNil n method <;> rfl

private theorem findRoute_norm (root : Node) (path method : Bytes) (K V : List Bytes) :
    Glb.Tr.Router.findRoute root path method K V
      = Glb.Tr.Router.findRoute root (normPath path) method K V := by
  cases path with
  | nil => rfl
  | cons b rest =>
    by_cases hb : b = 47
    · simp [normPath, hb]
    · have hn : normPath (b :: rest) = 47 :: b :: rest := by simp [normPath, hb]
      have h0 : ((b :: rest : Bytes) == []) = false := rfl
      have h1 : Glb.idx? (b :: rest) 0 = .ok b := rfl
      have h3 : (b != 47) = true := by simp [hb]
      rw [hn, Glb.Tr.Router.findRoute]
      simp only [h0, Bool.false_eq_true, if_false, if_true, idx_natlit, idxI_nat, h1, h3, bind, bind_ok, pure,
        Except.pure]
      rfl

/-- `findRoute` of httpd/tree.go, as translated, is the model's `findRoute`, for every trie, path,
    method and `Params`, panics included (both sides take the same slices with the same bounds
    checks, hence the same payloads). The translated function returns the updated `(K, V)` of
    `*params` and the `*RouteInfo`. -/
theorem findRoute_eq (root : Node) (path method : Bytes) (ps : Params) :
    Glb.Tr.Router.findRoute root path method ps.K ps.V
      = (Glb.Router.findRoute root path method ps).map (fun r => (r.2.K, r.2.V, r.1)) := by
  have hn : Glb.Router.findRoute root (normPath path) method ps = Glb.Router.findRoute root path method ps := by
    unfold Glb.Router.findRoute
    rw [Glb.Router.normPath_eq path]
    rfl
  rw [findRoute_norm, ← hn, Glb.Router.normPath_eq]
  exact findRoute_core root _ method ps.K ps.V

/-- what `findRoute_eq` says when the model returns (with Props/C04 `findRoute_never_panics`: always) -/
theorem findRoute_ok (root : Node) (path method : Bytes) (ps ps' : Params) (info : Option RouteId)
    (h : Glb.Router.findRoute root path method ps = .ok (info, ps')) :
    Glb.Tr.Router.findRoute root path method ps.K ps.V = .ok (ps'.K, ps'.V, info) := by
  rw [findRoute_eq, h]
  rfl

end Glb.Tie.TrRouter
