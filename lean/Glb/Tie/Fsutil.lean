/-
  Regenerated tie for C17: the shape of `ResolveUrlPath` read from /repo/util/fsutil/path.go is the
  shape `Model/PathClean.lean: resolveUrlPath` assumes.  Re-proved by `decide` on every run; a
  dropped guard, a different prepended literal, a different call chain in the return expression
  (e.g. string concatenation instead of `filepath.Join`, a missing `path.Clean`) or a re-bound
  import breaks this file.  Parameters are identified by position ($0 = baseFilePath,
  $1 = rawUrlPath), so renaming them does not.
-/
import Glb.Generated.StatusFsutil
import Glb.Generated.Fsutil
import Glb.Model.PathClean

namespace Glb.Tie.Fsutil
open Glb.PathClean

/-- `func ResolveUrlPath(string, string) string` with body `if … { $1 = … }; return …` -/
theorem resolve_sig : Generated.resolveSig = ["string", "string", "->", "string"] := by decide

theorem resolve_stmts : Generated.resolveStmts = ["if", "if.body:assign", "return/1"] := by decide

/-- guard: `$1 == "" || $1[0] != '/'` (`forceSlash`: the empty url or a first byte ≠ '/') -/
theorem resolve_guard :
    Generated.resolveGuard = ["||", "==", "$1", "str:", "!=", "index", "$1", "int:0", "char:47"] := by
  decide

theorem resolve_guard_byte : Generated.resolveGuardByte = some slash := by decide

/-- guarded statement: `$1 = "/" + $1` -/
theorem resolve_assign : Generated.resolveAssign = ["=", "$1", "+", "str:/", "$1"] := by decide

theorem resolve_prefix : Generated.resolvePrefix = [slash] := by decide

/-- `return filepath.Join($0, filepath.FromSlash(path.Clean($1)))` -/
theorem resolve_return :
    Generated.resolveReturn =
      ["call:filepath.Join/2", "$0", "call:filepath.FromSlash/1", "call:path.Clean/1", "$1"] := by
  decide

theorem resolve_calls :
    Generated.resolveCalls = ["filepath.Join", "filepath.FromSlash", "path.Clean"] := by decide

/-- `filepath` is path/filepath and `path` is path (no re-bound import names) -/
theorem resolve_imports :
    Generated.resolveImports = [("filepath", "path/filepath"), ("path", "path")] := by decide

/-- the model's first step, spelled with the regenerated constants, for every url -/
theorem forceSlash_uses_extracted (url : Bytes) :
    forceSlash url =
      if url = [] ∨ url[0]? ≠ Generated.resolveGuardByte then Generated.resolvePrefix ++ url
      else url := by
  cases url with
  | nil => rfl
  | cons c rest => simp [forceSlash, resolve_guard_byte, resolve_prefix]

/-- the model's return expression is the extracted call chain applied to ($0, forced $1) -/
theorem resolveUrlPath_shape (base url : Bytes) :
    resolveUrlPath base url = join [base, fromSlash (clean (forceSlash url))] := rfl

/-- the extractor of this area recognised the source as it is on this run (a refusal removes `ok`) -/
theorem extractor_ok : Glb.Generated.StatusFsutil.ok = () := rfl

end Glb.Tie.Fsutil
