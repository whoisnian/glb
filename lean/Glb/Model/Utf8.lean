/-
  Hand model of Go's `utf8.DecodeRuneInString` / `utf8.DecodeRune` (unicode/utf8, stdlib — modelled,
  not verified; compared exhaustively with the real function by the harness stream `utf8`).
  Returns `(rune, size)`; an invalid or truncated encoding yields `(0xFFFD, 1)`, the empty input
  `(0xFFFD, 0)`.  The genuine encoding of U+FFFD (EF BF BD) yields `(0xFFFD, 3)`.
-/
import Glb.Basic

namespace Glb.Utf8

def runeError : Nat := 0xFFFD

def isCont (b : UInt8) : Bool := 0x80 ≤ b && b ≤ 0xBF

/-- `(size, lo, hi)` of the `first`/`acceptRanges` tables for a lead byte ≥ 0x80; `none` = invalid lead -/
def lead (b : UInt8) : Option (Nat × UInt8 × UInt8) :=
  if 0xC2 ≤ b && b ≤ 0xDF then some (2, 0x80, 0xBF)
  else if b == 0xE0 then some (3, 0xA0, 0xBF)
  else if 0xE1 ≤ b && b ≤ 0xEC then some (3, 0x80, 0xBF)
  else if b == 0xED then some (3, 0x80, 0x9F)
  else if 0xEE ≤ b && b ≤ 0xEF then some (3, 0x80, 0xBF)
  else if b == 0xF0 then some (4, 0x90, 0xBF)
  else if 0xF1 ≤ b && b ≤ 0xF3 then some (4, 0x80, 0xBF)
  else if b == 0xF4 then some (4, 0x80, 0x8F)
  else none

def decodeRune : Bytes → Nat × Nat
  | [] => (runeError, 0)
  | b0 :: rest =>
    if b0 < 0x80 then (b0.toNat, 1)
    else match lead b0 with
      | none => (runeError, 1)
      | some (sz, lo, hi) =>
        match rest with
        | [] => (runeError, 1)
        | b1 :: rest1 =>
          if !(lo ≤ b1 && b1 ≤ hi) then (runeError, 1)
          else if sz == 2 then ((b0.toNat % 32) * 64 + b1.toNat % 64, 2)
          else match rest1 with
            | [] => (runeError, 1)
            | b2 :: rest2 =>
              if !isCont b2 then (runeError, 1)
              else if sz == 3 then ((b0.toNat % 16) * 4096 + (b1.toNat % 64) * 64 + b2.toNat % 64, 3)
              else match rest2 with
                | [] => (runeError, 1)
                | b3 :: _ =>
                  if !isCont b3 then (runeError, 1)
                  else ((b0.toNat % 8) * 262144 + (b1.toNat % 64) * 4096 + (b2.toNat % 64) * 64 + b3.toNat % 64, 4)

/-- UTF-8 encoding of a scalar value (used by specs: U+FFFD is EF BF BD) -/
def encodeRune (r : Nat) : Bytes :=
  if r < 0x80 then [UInt8.ofNat r]
  else if r < 0x800 then [UInt8.ofNat (0xC0 + r / 64), UInt8.ofNat (0x80 + r % 64)]
  else if r < 0x10000 then
    [UInt8.ofNat (0xE0 + r / 4096), UInt8.ofNat (0x80 + r / 64 % 64), UInt8.ofNat (0x80 + r % 64)]
  else
    [UInt8.ofNat (0xF0 + r / 262144), UInt8.ofNat (0x80 + r / 4096 % 64),
     UInt8.ofNat (0x80 + r / 64 % 64), UInt8.ofNat (0x80 + r % 64)]

theorem decodeRune_size_le (s : Bytes) : (decodeRune s).2 ≤ s.length := by
  fun_cases decodeRune s <;> simp only [List.length_cons, List.length_nil] <;> omega

theorem decodeRune_size_pos (b : UInt8) (s : Bytes) : 1 ≤ (decodeRune (b :: s)).2 := by
  generalize h : b :: s = l
  fun_cases decodeRune l
  · cases h
  all_goals exact Nat.succ_le_succ (Nat.zero_le _)

end Glb.Utf8
