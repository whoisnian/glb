/-
  Specification side of C01.

  * `JV`        ordered JSON trees: objects are ordered member lists (duplicate keys allowed), strings
                are byte strings, numbers are their text, `raw t` stands for an encoder payload `t`.
  * `P`/`IsJson` the RFC 8259 grammar as an inductive relation in "remaining input" style:
                `P s (.val v) r` = "`s` starts with a JSON value that denotes `v`, `r` is what follows".
                Whitespace may precede and follow every value, strings must be well-formed UTF-8, every
                escape form is decoded (`\" \\ \/ \b \f \n \r \t`, `\uXXXX`, surrogate pairs; an unpaired
                surrogate decodes to U+FFFD like in Go).
  * `san`       per-byte sanitisation: every byte that does not start a well-formed UTF-8 sequence
                becomes EF BF BD, well-formed sequences are kept.
  * `ser q`     canonical serializer (`,`-separated, no whitespace) with string quoting function `q`.
  * `expected`  the tree a record must decode to.
  * `shapeOk`   executable, deliberately lenient bracket/separator recogniser; every valid JSON text
                passes (`Props/C01.lean: shapeOk_complete`), so `shapeOk b = false` refutes validity.

  Core Lean only (the driver prints `expected`).
-/
import Glb.Model.JsonHandler

namespace Glb.Json
open Glb

/-! ### trees -/

inductive JV where
  | null
  | lit (b : Bool)
  | num (text : Bytes)
  | str (s : Bytes)
  | raw (text : Bytes)
  | arr (xs : List JV)
  | obj (ms : List (Bytes × JV))
  deriving Inhabited

mutual
/-- apply `f` to every string and every member key -/
def JV.mapStr (f : Bytes → Bytes) : JV → JV
  | .str s => .str (f s)
  | .arr xs => .arr (mapStrL f xs)
  | .obj ms => .obj (mapStrM f ms)
  | .null => .null
  | .lit b => .lit b
  | .num t => .num t
  | .raw t => .raw t
def mapStrL (f : Bytes → Bytes) : List JV → List JV
  | [] => []
  | x :: xs => JV.mapStr f x :: mapStrL f xs
def mapStrM (f : Bytes → Bytes) : List (Bytes × JV) → List (Bytes × JV)
  | [] => []
  | (k, v) :: ms => (f k, JV.mapStr f v) :: mapStrM f ms
end

/-! ### lexical pieces -/

def isWs (b : UInt8) : Bool := b == 0x20 || b == 0x09 || b == 0x0A || b == 0x0D

def isDigit (b : UInt8) : Bool := 0x30 ≤ b && b ≤ 0x39

inductive NumSt where
  | start | minus | zero | int | dot | frac | e | esign | exp
  deriving DecidableEq, Repr

/-- DFA of `number = [ minus ] int [ frac ] [ exp ]` (RFC 8259 §6) -/
def numStep : NumSt → UInt8 → Option NumSt
  | .start, b => if b == 0x2D then some .minus else if b == 0x30 then some .zero
                 else if isDigit b then some .int else none
  | .minus, b => if b == 0x30 then some .zero else if isDigit b then some .int else none
  | .zero, b => if b == 0x2E then some .dot else if b == 0x65 || b == 0x45 then some .e else none
  | .int, b => if isDigit b then some .int else if b == 0x2E then some .dot
               else if b == 0x65 || b == 0x45 then some .e else none
  | .dot, b => if isDigit b then some .frac else none
  | .frac, b => if isDigit b then some .frac else if b == 0x65 || b == 0x45 then some .e else none
  | .e, b => if b == 0x2B || b == 0x2D then some .esign else if isDigit b then some .exp else none
  | .esign, b => if isDigit b then some .exp else none
  | .exp, b => if isDigit b then some .exp else none

def numAccept : NumSt → Bool
  | .zero | .int | .frac | .exp => true
  | _ => false

def numRun : NumSt → Bytes → Option NumSt
  | st, [] => some st
  | st, b :: t => match numStep st b with
    | some st' => numRun st' t
    | none => none

def isNumber (t : Bytes) : Bool :=
  match numRun .start t with
  | some st => numAccept st
  | none => false

def hexVal (b : UInt8) : Option Nat :=
  if 0x30 ≤ b && b ≤ 0x39 then some (b.toNat - 0x30)
  else if 0x61 ≤ b && b ≤ 0x66 then some (b.toNat - 0x61 + 10)
  else if 0x41 ≤ b && b ≤ 0x46 then some (b.toNat - 0x41 + 10)
  else none

def hex4 (a b c d : UInt8) : Option Nat :=
  match hexVal a, hexVal b, hexVal c, hexVal d with
  | some w, some x, some y, some z => some (w * 4096 + x * 256 + y * 16 + z)
  | _, _, _, _ => none

def isHiSurr (c : Nat) : Bool := 0xD800 ≤ c && c < 0xDC00
def isLoSurr (c : Nat) : Bool := 0xDC00 ≤ c && c < 0xE000
def isSurr (c : Nat) : Bool := 0xD800 ≤ c && c < 0xE000

/-- two-character escapes: the character after the backslash ↦ the byte it denotes -/
def simpleEsc (e : UInt8) : Option UInt8 :=
  if e == 0x22 then some 0x22        -- \"
  else if e == 0x5C then some 0x5C   -- \\
  else if e == 0x2F then some 0x2F   -- \/
  else if e == 0x62 then some 0x08   -- \b
  else if e == 0x66 then some 0x0C   -- \f
  else if e == 0x6E then some 0x0A   -- \n
  else if e == 0x72 then some 0x0D   -- \r
  else if e == 0x74 then some 0x09   -- \t
  else none

def replacement : Bytes := [0xEF, 0xBF, 0xBD]

/-- `\u` ++ four hex digits -/
def uEsc (a b c d : UInt8) (s : Bytes) : Bytes := 0x5C :: 0x75 :: a :: b :: c :: d :: s

/-- does `s` start with `\u` + the four hex digits of a low surrogate? -/
def startsLowEsc (s : Bytes) : Bool :=
  s.head? == some 0x5C && s.tail.head? == some 0x75 &&
    (match s.drop 2 with
     | a :: b :: c :: e :: _ => (match hex4 a b c e with
       | some lo => isLoSurr lo
       | none => false)
     | _ => false)

/-- `PStr s d r`: `s` (the input just after an opening quote) consists of string characters
    denoting the byte string `d`, the closing quote, and then `r`. -/
inductive PStr : Bytes → Bytes → Bytes → Prop where
  | done (r : Bytes) : PStr (0x22 :: r) [] r
  /-- unescaped ASCII: %x20-21 / %x23-5B / %x5D-7F -/
  | plain {b : UInt8} {s d r : Bytes} :
      0x20 ≤ b → b < 0x80 → b ≠ 0x22 → b ≠ 0x5C → PStr s d r → PStr (b :: s) (b :: d) r
  /-- unescaped non-ASCII must be well-formed UTF-8 (RFC 3629 table = `Utf8.lead`: lead byte ↦ length and
      the range of the second byte; further bytes are continuation bytes 80..BF); it denotes itself -/
  | multi2 {b0 b1 lo hi : UInt8} {s d r : Bytes} :
      Utf8.lead b0 = some (2, lo, hi) → lo ≤ b1 → b1 ≤ hi →
      PStr s d r → PStr (b0 :: b1 :: s) (b0 :: b1 :: d) r
  | multi3 {b0 b1 b2 lo hi : UInt8} {s d r : Bytes} :
      Utf8.lead b0 = some (3, lo, hi) → lo ≤ b1 → b1 ≤ hi → Utf8.isCont b2 = true →
      PStr s d r → PStr (b0 :: b1 :: b2 :: s) (b0 :: b1 :: b2 :: d) r
  | multi4 {b0 b1 b2 b3 lo hi : UInt8} {s d r : Bytes} :
      Utf8.lead b0 = some (4, lo, hi) → lo ≤ b1 → b1 ≤ hi → Utf8.isCont b2 = true → Utf8.isCont b3 = true →
      PStr s d r → PStr (b0 :: b1 :: b2 :: b3 :: s) (b0 :: b1 :: b2 :: b3 :: d) r
  | esc {e b : UInt8} {s d r : Bytes} :
      simpleEsc e = some b → PStr s d r → PStr (0x5C :: e :: s) (b :: d) r
  | uni {a b c e : UInt8} {cp : Nat} {s d r : Bytes} :
      hex4 a b c e = some cp → isSurr cp = false → PStr s d r →
      PStr (uEsc a b c e s) (Utf8.encodeRune cp ++ d) r
  | pair {a b c e a' b' c' e' : UInt8} {hi lo : Nat} {s d r : Bytes} :
      hex4 a b c e = some hi → isHiSurr hi = true → hex4 a' b' c' e' = some lo → isLoSurr lo = true →
      PStr s d r →
      PStr (uEsc a b c e (uEsc a' b' c' e' s))
        (Utf8.encodeRune (0x10000 + (hi - 0xD800) * 0x400 + (lo - 0xDC00)) ++ d) r
  /-- unpaired surrogate (a low one, or a high one not followed by an escaped low one): U+FFFD, which is
      what Go's decoder yields -/
  | lone {a b c e : UInt8} {cp : Nat} {s d r : Bytes} :
      hex4 a b c e = some cp → isSurr cp = true → (isHiSurr cp && startsLowEsc s) = false →
      PStr s d r → PStr (uEsc a b c e s) (replacement ++ d) r

/-- well-formed UTF-8 (RFC 3629, table `Utf8.lead`) -/
inductive WellFormedUtf8 : Bytes → Prop where
  | nil : WellFormedUtf8 []
  | ascii {b : UInt8} {s : Bytes} : b < 0x80 → WellFormedUtf8 s → WellFormedUtf8 (b :: s)
  | seq2 {b0 b1 lo hi : UInt8} {s : Bytes} : Utf8.lead b0 = some (2, lo, hi) → lo ≤ b1 → b1 ≤ hi →
      WellFormedUtf8 s → WellFormedUtf8 (b0 :: b1 :: s)
  | seq3 {b0 b1 b2 lo hi : UInt8} {s : Bytes} : Utf8.lead b0 = some (3, lo, hi) → lo ≤ b1 → b1 ≤ hi →
      Utf8.isCont b2 = true → WellFormedUtf8 s → WellFormedUtf8 (b0 :: b1 :: b2 :: s)
  | seq4 {b0 b1 b2 b3 lo hi : UInt8} {s : Bytes} : Utf8.lead b0 = some (4, lo, hi) → lo ≤ b1 → b1 ≤ hi →
      Utf8.isCont b2 = true → Utf8.isCont b3 = true → WellFormedUtf8 s → WellFormedUtf8 (b0 :: b1 :: b2 :: b3 :: s)

inductive Item where
  | val (v : JV)
  | elems (vs : List JV)
  | members (ms : List (Bytes × JV))

def nullText : Bytes := [0x6E, 0x75, 0x6C, 0x6C]

/-- The grammar.  `P s (.val v) r`: `s` = value denoting `v`, then `r`.
    `P s (.elems vs) r`: `s` = one or more `,`-separated values, `]`, then `r`.
    `P s (.members ms) r`: `s` = one or more `,`-separated `string : value` members, `}`, then `r`. -/
inductive P : Bytes → Item → Bytes → Prop where
  | ws {b : UInt8} {s r : Bytes} {v : JV} : isWs b = true → P s (.val v) r → P (b :: s) (.val v) r
  | wsAfter {b : UInt8} {s r : Bytes} {v : JV} : isWs b = true → P s (.val v) (b :: r) → P s (.val v) r
  | null (r : Bytes) : P (nullText ++ r) (.val .null) r
  | tru (r : Bytes) : P (JsonHandler.trueText ++ r) (.val (.lit true)) r
  | fls (r : Bytes) : P (JsonHandler.falseText ++ r) (.val (.lit false)) r
  | num {t : Bytes} (r : Bytes) : isNumber t = true → P (t ++ r) (.val (.num t)) r
  | str {s d r : Bytes} : PStr s d r → P (0x22 :: s) (.val (.str d)) r
  /-- `raw t` stands for any value whose text is exactly `t` -/
  | raw {t r : Bytes} {v : JV} : P (t ++ r) (.val v) r → P (t ++ r) (.val (.raw t)) r
  | arrEmpty (r : Bytes) : P (0x5B :: 0x5D :: r) (.val (.arr [])) r
  | arrWs {b : UInt8} {s r : Bytes} : isWs b = true → P (0x5B :: s) (.val (.arr [])) r →
      P (0x5B :: b :: s) (.val (.arr [])) r
  | arr {s r : Bytes} {vs : List JV} : P s (.elems vs) r → P (0x5B :: s) (.val (.arr vs)) r
  | objEmpty (r : Bytes) : P (0x7B :: 0x7D :: r) (.val (.obj [])) r
  | objWs {b : UInt8} {s r : Bytes} : isWs b = true → P (0x7B :: s) (.val (.obj [])) r →
      P (0x7B :: b :: s) (.val (.obj [])) r
  | obj {s r : Bytes} {ms : List (Bytes × JV)} : P s (.members ms) r → P (0x7B :: s) (.val (.obj ms)) r
  | elemsOne {s r : Bytes} {v : JV} : P s (.val v) (0x5D :: r) → P s (.elems [v]) r
  | elemsCons {s s' r : Bytes} {v : JV} {vs : List JV} :
      P s (.val v) (0x2C :: s') → P s' (.elems vs) r → P s (.elems (v :: vs)) r
  | memOne {s s' r k : Bytes} {v : JV} :
      P s (.val (.str k)) (0x3A :: s') → P s' (.val v) (0x7D :: r) → P s (.members [(k, v)]) r
  | memCons {s s' s'' r k : Bytes} {v : JV} {ms : List (Bytes × JV)} :
      P s (.val (.str k)) (0x3A :: s') → P s' (.val v) (0x2C :: s'') → P s'' (.members ms) r →
      P s (.members ((k, v) :: ms)) r

/-- `b` is a JSON text (RFC 8259: `ws value ws`) denoting the tree `v` -/
def IsJson (b : Bytes) (v : JV) : Prop := P b (.val v) []

/-- `b` is a JSON string literal (quotes included) denoting `d` -/
def IsJsonString (b d : Bytes) : Prop := ∃ s, b = 0x22 :: s ∧ PStr s d []

/-! ### contract of opaque payloads -/

mutual
/-- number texts are RFC 8259 numbers; raw payloads are JSON texts without a newline -/
def JV.Ok : JV → Prop
  | .num t => isNumber t = true
  | .raw t => (∃ v, IsJson t v) ∧ 0x0A ∉ t
  | .arr xs => OkL xs
  | .obj ms => OkM ms
  | .null => True
  | .lit _ => True
  | .str _ => True
def OkL : List JV → Prop
  | [] => True
  | x :: xs => x.Ok ∧ OkL xs
def OkM : List (Bytes × JV) → Prop
  | [] => True
  | (_, v) :: ms => v.Ok ∧ OkM ms
end

/-! ### sanitisation -/

/-- every byte that does not start a well-formed UTF-8 sequence ↦ EF BF BD; well-formed sequences kept.
    (Same result as `strings.ToValidUTF8`-per-byte / what `encoding/json` produces when decoding the
    handler's escapes.) -/
def san : Bytes → Bytes
  | [] => []
  | b :: rest =>
    let cs := Utf8.decodeRune (b :: rest)
    if cs.1 == Utf8.runeError && cs.2 == 1 then replacement ++ san rest
    else (b :: rest).take cs.2 ++ san ((b :: rest).drop cs.2)
termination_by s => s.length
decreasing_by
  all_goals simp only [List.length_cons, List.length_drop]
  · omega
  · have := Utf8.decodeRune_size_pos b rest
    omega

/-! ### canonical serializer -/

mutual
def ser (q : Bytes → Bytes) : JV → Bytes
  | .null => nullText
  | .lit b => if b then JsonHandler.trueText else JsonHandler.falseText
  | .num t => t
  | .str s => 0x22 :: q s ++ [0x22]
  | .raw t => t
  | .arr xs => 0x5B :: serElems q xs ++ [0x5D]
  | .obj ms => 0x7B :: serMems q ms ++ [0x7D]
def serElems (q : Bytes → Bytes) : List JV → Bytes
  | [] => []
  | [x] => ser q x
  | x :: y :: xs => ser q x ++ 0x2C :: serElems q (y :: xs)
/-- members joined with `,` -/
def serMems (q : Bytes → Bytes) : List (Bytes × JV) → Bytes
  | [] => []
  | [(k, v)] => 0x22 :: q k ++ [0x22, 0x3A] ++ ser q v
  | (k, v) :: m :: ms => 0x22 :: q k ++ [0x22, 0x3A] ++ ser q v ++ 0x2C :: serMems q (m :: ms)
end

/-- members joined with `,`, preceded by `,` when `sep` and there is at least one member -/
def serSep (q : Bytes → Bytes) (sep : Bool) (ms : List (Bytes × JV)) : Bytes :=
  if ms.isEmpty then [] else (if sep then [0x2C] else []) ++ serMems q ms

/-! ### the expected tree -/
open Glb.JsonHandler

/-- the tree of a leaf before sanitisation (strings as given to the handler) -/
def leafSrc : Leaf → JV
  | .str s => .str s
  | .num t => .num t
  | .bool b => .lit b
  | .time t => .str t
  | .enc (.ok raw) => .raw raw
  | .enc (.error msg) => .str msg
  | .err msg => .str msg
  | .ansi v => .str v
  | .panicNil => .str JsonHandler.nilText
  | .panicMsg m => .str (JsonHandler.panicPrefix ++ m)

mutual
/-- members an attribute contributes to the enclosing object: a leaf one member, a keyed group one member
    holding an object (`{}` when empty), an inline group (empty key) its own members (none when empty) -/
def membersSrc : Attr → List (Bytes × JV)
  | .leaf k v => [(k, leafSrc v)]
  | .group k as => if k.isEmpty then membersSrcL as else [(k, .obj (membersSrcL as))]
def membersSrcL : List Attr → List (Bytes × JV)
  | [] => []
  | a :: as => membersSrc a ++ membersSrcL as
end

/-- `With` attrs in order, each `WithGroup g` wraps everything after it; `tail` = the record's attrs -/
def nestSrc : List Deriv → List (Bytes × JV) → List (Bytes × JV)
  | [], tail => tail
  | .attrs as :: ds, tail => membersSrcL as ++ nestSrc ds tail
  | .group g :: ds, tail => [(g, .obj (nestSrc ds tail))]

def levelName (l : Int) : Bytes :=
  if l == 0 then [0x44, 0x45, 0x42, 0x55, 0x47]        -- DEBUG
  else if l == 4 then [0x49, 0x4E, 0x46, 0x4F]          -- INFO
  else if l == 8 then [0x57, 0x41, 0x52, 0x4E]          -- WARN
  else if l == 12 then [0x45, 0x52, 0x52, 0x4F, 0x52]   -- ERROR
  else if l == 16 then [0x46, 0x41, 0x54, 0x41, 0x4C]   -- FATAL
  else []

def validLevel (l : Int) : Bool := l == 0 || l == 4 || l == 8 || l == 12 || l == 16

/-- the tree before sanitisation -/
def expectedSrc (addSource : Bool) (chain : List Deriv) (r : Rec) : JV :=
  .obj ([(kTime, .str r.time), (kLevel, .str (levelName r.level))]
    ++ (if addSource then
          [(kSource, .obj [(kFile, .str (JsonHandler.trimSource r.file)), (kLine, .num r.line)])]
        else [])
    ++ [(kMsg, .str r.msg)]
    ++ nestSrc chain (membersSrcL r.attrs))

/-- What the line must decode to: time, level, (source{file,line})?, msg, then the attributes — `With`
    attrs and record attrs flattened through inline groups, keyed groups as nested objects, everything
    after a `WithGroup g` inside the object `g` — with every string and key sanitised per byte. -/
def expected (addSource : Bool) (chain : List Deriv) (r : Rec) : JV :=
  (expectedSrc addSource chain r).mapStr san

/-! ### contract of the stdlib payloads inside attributes and records -/

/-- printable ASCII other than `"` and `\\` — what `time.AppendFormat(RFC3339Nano)` produces -/
def plainAscii (b : UInt8) : Bool := 0x20 ≤ b && b < 0x80 && b != 0x22 && b != 0x5C

/-- strconv texts are JSON numbers, time texts are plain ASCII, successful encoder outputs are JSON
    texts without newline.  Nothing is required of strings, keys, error messages. -/
def LeafOk : Leaf → Prop
  | .num t => isNumber t = true
  | .time t => ∀ b ∈ t, plainAscii b = true
  | .enc (.ok raw) => (∃ v, IsJson raw v) ∧ 0x0A ∉ raw
  | _ => True

mutual
def AttrOk : Attr → Prop
  | .leaf _ v => LeafOk v
  | .group _ as => AttrsOk as
def AttrsOk : List Attr → Prop
  | [] => True
  | a :: as => AttrOk a ∧ AttrsOk as
end

def DerivOk : Deriv → Prop
  | .attrs as => AttrsOk as
  | .group _ => True

def ChainOk : List Deriv → Prop
  | [] => True
  | d :: ds => DerivOk d ∧ ChainOk ds

def RecOk (r : Rec) : Prop :=
  (∀ b ∈ r.time, plainAscii b = true) ∧ isNumber r.line = true ∧ AttrsOk r.attrs

/-! ### lenient executable recogniser -/

inductive Mode where
  | val | valOrClose | afterVal | str | strEsc
  deriving DecidableEq, Repr

/-- characters of numbers and literals -/
def isAtomChar (b : UInt8) : Bool :=
  isDigit b || b == 0x2D || b == 0x2B || b == 0x2E || (0x61 ≤ b && b ≤ 0x7A) || b == 0x45

/-- one step of the bracket/separator automaton; the stack holds `true` for `{`, `false` for `[` -/
def shapeStep : Mode × List Bool → UInt8 → Option (Mode × List Bool)
  | (.str, stk), b => if b == 0x22 then some (.afterVal, stk) else if b == 0x5C then some (.strEsc, stk)
                      else some (.str, stk)
  | (.strEsc, stk), _ => some (.str, stk)
  | (.afterVal, stk), b =>
    if isWs b || isAtomChar b then some (.afterVal, stk)
    else if b == 0x2C then (match stk with | [] => none | _ :: _ => some (.val, stk))
    else if b == 0x3A then (match stk with | true :: _ => some (.val, stk) | _ => none)
    else if b == 0x7D then (match stk with | true :: t => some (.afterVal, t) | _ => none)
    else if b == 0x5D then (match stk with | false :: t => some (.afterVal, t) | _ => none)
    else none
  | (m, stk), b =>   -- val / valOrClose
    if isWs b then some (m, stk)
    else if b == 0x7B then some (.valOrClose, true :: stk)
    else if b == 0x5B then some (.valOrClose, false :: stk)
    else if b == 0x22 then some (.str, stk)
    else if isAtomChar b then some (.afterVal, stk)
    else if m == .valOrClose && b == 0x7D then (match stk with | true :: t => some (.afterVal, t) | _ => none)
    else if m == .valOrClose && b == 0x5D then (match stk with | false :: t => some (.afterVal, t) | _ => none)
    else none

def shapeRun : Option (Mode × List Bool) → Bytes → Option (Mode × List Bool)
  | st, [] => st
  | none, _ => none
  | some st, b :: t => shapeRun (shapeStep st b) t

/-- necessary condition for being a JSON text -/
def shapeOk (b : Bytes) : Bool :=
  match shapeRun (some (.val, [])) b with
  | some (.afterVal, []) => true
  | _ => false

end Glb.Json
