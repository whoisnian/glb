-- Root of the `Glb` library: everything that must build (models, specs, proofs, property theorems, ties).
import Glb.Basic
import Glb.Model.Filter
import Glb.Model.Utf8
import Glb.Model.TaskLane
import Glb.Generated.Logger
import Glb.Proofs.Filter
import Glb.Props.C11
import Glb.Tie.Filter
import Glb.Driver.Filter
import Glb.Tie.TaskLane
import Glb.Model.Strutil
import Glb.Spec.PosixWords
import Glb.Proofs.Strutil
import Glb.Tie.Strutil
import Glb.Props.C16
import Glb.Driver.Strutil
import Glb.Model.PathClean
import Glb.Spec.PathNF
import Glb.Proofs.PathClean
import Glb.Props.C17
import Glb.Model.PathCleanBytes
import Glb.Proofs.PathCleanBytes
import Glb.Props.C17b
import Glb.Generated.Fsutil
import Glb.Tie.Fsutil
import Glb.Driver.Fsutil
import Glb.Props.C12
import Glb.Model.FilterConc
import Glb.Proofs.FilterConc
import Glb.Props.C12b
import Glb.Generated.FilterLock
import Glb.Tie.FilterLock
import Glb.Model.ArgParse
import Glb.Spec.ArgvGrammar
import Glb.Proofs.ArgParse
import Glb.Props.C10
import Glb.Driver.Config
import Glb.Proofs.TaskLaneSafety
import Glb.Proofs.TaskLaneDemo
import Glb.Props.C06
import Glb.Props.C08a
import Glb.Props.C14
import Glb.Proofs.TaskLaneSteps
import Glb.Proofs.TaskLaneProgress
import Glb.Proofs.TaskLaneTraces
import Glb.Props.C06b
import Glb.Props.C07
import Glb.Props.C08
import Glb.Model.TextHandler
import Glb.Spec.TextTokens
import Glb.Spec.TextExpected
import Glb.Tie.TextLogger
import Glb.Proofs.TextHandler
import Glb.Props.C13
import Glb.Driver.Text
import Glb.Model.StrconvQuote
import Glb.Proofs.StrconvQuote
import Glb.Props.C13b
import Glb.Driver.Quote
import Glb.Generated.Relay
import Glb.Model.Relay
import Glb.Proofs.Relay
import Glb.Props.C15
import Glb.Tie.Relay
import Glb.Driver.Relay
import Glb.Generated.Daemon
import Glb.Model.Daemon
import Glb.Proofs.Daemon
import Glb.Props.C20
import Glb.Tie.Daemon
import Glb.Driver.Daemon
import Glb.Generated.Ioutil
import Glb.Model.Progress
import Glb.Proofs.Progress
import Glb.Props.C19
import Glb.Tie.Ioutil
import Glb.Driver.Progress
import Glb.Generated.Osutil
import Glb.Model.Files
import Glb.Proofs.Files
import Glb.Driver.Files
import Glb.Generated.Config
import Glb.Model.Config
import Glb.Proofs.Config
import Glb.Props.C09
import Glb.Tie.Config
import Glb.Model.JsonHandler
import Glb.Spec.Json
import Glb.Driver.Json
import Glb.Tie.Logger
import Glb.Proofs.Utf8
import Glb.Proofs.JsonString
import Glb.Proofs.Json
import Glb.Proofs.JsonHandler
import Glb.Props.C01
import Glb.Props.C18
import Glb.Tie.Osutil
import Glb.Generated.LoggerClone
import Glb.Model.DeriveSlices
import Glb.Proofs.DeriveSlices
import Glb.Props.C03
import Glb.Tie.LoggerClone
import Glb.Driver.Derive
import Glb.Generated.LoggerHandle
import Glb.Model.LogSys
import Glb.Proofs.LogSys
import Glb.Props.C02
import Glb.Tie.LoggerHandle
import Glb.Driver.LogSys
import Glb.Generated.Httpd
import Glb.Model.Router
import Glb.Spec.RouteList
import Glb.Driver.Router
import Glb.Tie.Httpd
import Glb.Proofs.RouterTrie
import Glb.Proofs.RouterParse
import Glb.Proofs.RouterInv
import Glb.Proofs.RouterSim
import Glb.Proofs.RouterMain
import Glb.Props.C04
import Glb.Model.Store
import Glb.Proofs.Store
import Glb.Model.StoreConc
import Glb.Proofs.StoreConc
import Glb.Props.C05
import Glb.Driver.Store
import Glb.Model.NanoHandler
import Glb.Proofs.RendererInst
import Glb.Props.C03b
import Glb.Driver.Nano
import Glb.Model.TaskLaneExec
import Glb.Proofs.TaskLaneExec
import Glb.Driver.TaskLaneTrace
import Glb.Model.AuxLogger
import Glb.Model.AuxNetutil
import Glb.Model.AuxStrutil
import Glb.Model.AuxFsutil
import Glb.Model.AuxHttpd
import Glb.Proofs.AuxLogger
import Glb.Proofs.AuxNetutil
import Glb.Proofs.AuxStrutil
import Glb.Proofs.AuxFsutil
import Glb.Proofs.AuxHttpd
import Glb.Props.AuxFns
import Glb.Driver.AuxFns
-- Go→Lean translator (tools/extract/golean.go): target language, lemmas, translated units, ties
import Glb.Go.Prelude
import Glb.Go.Lemmas
import Glb.Go.LibUtf8
import Glb.Go.LibPath
import Glb.Generated.TrShell
import Glb.Generated.TrUnderscore
import Glb.Generated.TrStrutil
import Glb.Generated.TrJson
import Glb.Generated.TrLogger
import Glb.Generated.TrNetutil
import Glb.Generated.TrHttpd
import Glb.Generated.TrResolve
import Glb.Generated.TrFsutil
import Glb.Generated.TrAnsi
import Glb.Tie.TrStrutil
import Glb.Tie.TrShell
import Glb.Tie.TrUnderscore
import Glb.Generated.TrRouter
import Glb.Generated.TrConfig
import Glb.Go.LemmasJsonString
import Glb.Tie.TrJsonString
import Glb.Tie.TrJson
import Glb.Tie.TrLogger
import Glb.Tie.TrResolve
import Glb.Tie.TrMisc
import Glb.Tie.TrRouter
import Glb.Tie.TrConfig
import Glb.Props.CodeC01
import Glb.Props.CodeC04
import Glb.Props.CodeC09
import Glb.Props.CodeC16
import Glb.Props.CodeC17
import Glb.Generated.TrFilter
import Glb.Go.LibText
import Glb.Generated.TrText
import Glb.Generated.TrArgs
import Glb.Go.LemmasTables
import Glb.Tie.TrText
import Glb.Generated.StatusConfig
import Glb.Generated.StatusDaemon
import Glb.Generated.StatusFilter
import Glb.Generated.StatusFilterLock
import Glb.Generated.StatusFsutil
import Glb.Generated.StatusGoLean
import Glb.Generated.StatusHttpd
import Glb.Generated.StatusIoutil
import Glb.Generated.StatusLogger
import Glb.Generated.StatusLoggerClone
import Glb.Generated.StatusLoggerHandle
import Glb.Generated.StatusOsutil
import Glb.Generated.StatusRelay
import Glb.Generated.StatusStrutil
import Glb.Generated.StatusTaskLane
import Glb.Tie.TrArgs
import Glb.Tie.TrFilter
import Glb.Props.CodeC13
import Glb.Go.LibRouter
import Glb.Generated.TrParseRoute
import Glb.Go.LibJson
import Glb.Go.LibTextAttr
import Glb.Generated.TrJsonAttr
import Glb.Generated.TrTextAttr
import Glb.Generated.TrJsonHandler
import Glb.Tie.TrParseRoute
import Glb.Tie.TrJsonAttr
import Glb.Tie.TrTextAttr
import Glb.Generated.TrLevel
import Glb.Tie.TrLevel
import Glb.Generated.TrTextSource
import Glb.Generated.TrTextHandler
import Glb.Tie.TrJsonHandler
import Glb.Go.LibNano
import Glb.Generated.TrNano
import Glb.Tie.TrTextHandler
import Glb.Generated.TrIoutil
import Glb.Tie.TrNano
import Glb.Tie.TrIoutil
